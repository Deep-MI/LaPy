import LapyVerif.Generated.Effects
import LapyVerif.Props.C20
/-
  Bridge of C20: obligations on the effect table extracted from `/repo` (which methods write `t`, which re-run the
  constructor, which public functions write through a parameter), and the history theorems instantiated with it.
-/
namespace LapyVerif.Bridge
open Props.C20 History

/-- every `TriaMesh` method whose effect can change the triangles re-runs the constructor -/
theorem tri_table_ok : TriTableOk Gen.Effects.rebTri := by unfold TriTableOk; decide

theorem tet_table_ok : TetTableOk Gen.Effects.rebTet := by unfold TetTableOk; decide

/-- syntactically: a method that stores into `self.t` (directly or through an alias) re-runs the constructor -/
theorem writers_reinit :
    (∀ e ∈ Gen.Effects.triTable, e.2.1 = true → e.2.2.2 = true) ∧ (∀ e ∈ Gen.Effects.tetTable, e.2.1 = true → e.2.2.2 = true) := by
  decide

/-- the vertex-only mutators do not store into `self.t` -/
theorem vertex_only :
    ∀ e ∈ Gen.Effects.triTable, (e.1 = "normalize_" ∨ e.1 = "smooth_" ∨ e.1 = "normal_offset_") → e.2.1 = false := by
  decide

/-- all six in-place operations of the model exist in the source -/
theorem ops_present :
    ∀ n ∈ ["orient_", "refine_", "rm_free_vertices_", "normalize_", "smooth_", "normal_offset_"],
      (Gen.Effects.triTable.find? fun e => e.1 == n).isSome = true := by
  decide

/-- no public function or method without trailing underscore writes through a parameter -/
theorem purity_table : Gen.Effects.impure = [] := by decide

variable {K : Type} [Zero K] [Add K] [Sub K] [Mul K] [Div K] [Neg K] [NatCast K] [HasSqrt K]
variable [LT K] [DecidableRel (α := K) (· < ·)]

/-- **C20 for the traced source**: after any history of in-place operations on a constructed triangle mesh the
    cached adjacency is what the constructor would compute -/
theorem tri_history (v : List (V3 K)) (t : List Tri) (ops : List (TriOp K)) :
    TriInv (triRun Gen.Effects.rebTri (TriState.fresh v t) ops) :=
  inv_from_ctor _ tri_table_ok v t ops

theorem tet_history (v : List (V3 K)) (t : List Tet) (ops : List TetOp) :
    TetInv (tetRun Gen.Effects.rebTet (TetState.fresh v t) ops) :=
  tet_inv_history _ tet_table_ok _ (show TetInv (TetState.fresh v t) from rfl) ops

end LapyVerif.Bridge
