import LapyVerif.Props.C14b
/- axiom audit of C14b (FreeSurfer binary surfaces) -/
#print axioms LapyVerif.Props.C14b.be32_roundtrip
#print axioms LapyVerif.Props.C14b.readBlock_words
#print axioms LapyVerif.Props.C14b.readFs_mesh
#print axioms LapyVerif.Props.C14b.fs_roundtrip
#print axioms LapyVerif.Props.C14b.fs_roundtrip_head210
#print axioms LapyVerif.Props.C14b.fs_bad_magic
#print axioms LapyVerif.Props.C14b.readFs_short
#print axioms LapyVerif.Props.C14b.readBlock_short
#print axioms LapyVerif.Props.C14b.fs_truncated_mesh
#print axioms LapyVerif.Props.C14b.fs_truncated_footer
#print axioms LapyVerif.Props.C14b.readVolInfo_cut_code
#print axioms LapyVerif.Props.C14b.fs_truncated_head
#print axioms LapyVerif.Props.C14b.exSurf_good
#print axioms LapyVerif.FsSurf.readVolInfo_writeInfo
#print axioms LapyVerif.FsSurf.readInfoBody_lines
#print axioms LapyVerif.FsSurf.parseKV_line
#print axioms LapyVerif.FsSurf.fromfile_words
#print axioms LapyVerif.Props.C14b.readBody_stamp
#print axioms LapyVerif.Props.C14b.length_writeMesh
#print axioms LapyVerif.FsSurf.fromfile_one
