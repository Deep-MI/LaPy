import Mathlib.Tactic.Ring
import LapyVerif.Props.C13
import LapyVerif.Props.C09
import LapyVerif.Lemmas.TransferLemmas
import LapyVerif.Model.History
/-
  C15 — transfer between triangle and vertex functions, and smoothing.

  Model: `Model/Transfer.lean` (functions are lists of rows).  The statements are made column by column through
  `col k f := f.map (·.getD k 0)` for rectangular input (`Rect cols f`: every row has `cols` entries); the
  correspondence with single-column versions (`t2vScalar`, `smooth1S`, `smoothS`) is `col_t2v`, `smooth1_spec`,
  `smooth_spec` in `Lemmas/TransferLemmas.lean` and holds for every column index `k` (columns `k ≥ cols` read 0 on both
  sides).

  A bold name in a docstring is the label of a clause of the property, which several theorems may share and which need
  not be the name of the declaration it stands on.  In the names, `smooth1…` is one application of the operator and
  `smooth…` / `smoothS…` is `smooth_vfunc(f, n)`; the exceptions are `smooth_range` (one application; `n`-fold:
  `smooth_range_iter`) and the scalar helpers `smooth1S_*` / `smoothS_*`.
-/
namespace LapyVerif.Props.C15
open Transfer TransferLemmas
open LapyVerif.Props.C09 (InRange)

/-- the element area of the specification, `½‖(v1−v0)×(v2−v0)‖` -/
noncomputable def areaOf (vtx : Nat → V3 ℝ) (τ : Tri) : ℝ := Spec.triArea (vtx τ.1) (vtx τ.2.1) (vtx τ.2.2)

/-! ## 1./2. `map_tfunc_to_vfunc`: what is scattered arrives -/

theorem sum_corner (nv : Nat) (τ : Tri) (h : τ.1 < nv ∧ τ.2.1 < nv ∧ τ.2.2 < nv) :
    ((List.range nv).map (corner τ)).sum = 3 := by
  unfold corner
  rw [List.sum_map_add, List.sum_map_add, sum_range_indicator, sum_range_indicator, sum_range_indicator,
    if_pos h.1, if_pos h.2.1, if_pos h.2.2]
  norm_num

/-- exchange of the two sums: every scattered value arrives three times a third -/
theorem sum_scatter (nv : Nat) (L : List (Tri × ℝ)) (hL : ∀ p ∈ L, p.1.1 < nv ∧ p.1.2.1 < nv ∧ p.1.2.2 < nv) :
    ((List.range nv).map fun i => (L.map fun p => corner p.1 i * p.2).sum / 3).sum = (L.map (·.2)).sum := by
  induction L with
  | nil => simp
  | cons p L ih =>
    simp only [List.map_cons, List.sum_cons, add_div]
    rw [List.sum_map_add, ih (fun q hq => hL q (List.mem_cons_of_mem _ hq))]
    congr 1
    simp only [mul_div_assoc]
    rw [List.sum_map_mul_right, sum_corner nv p.1 (hL p List.mem_cons_self)]
    ring

theorem t2vScalar_sum (nv : Nat) (vtx : Nat → V3 ℝ) (ts : List Tri) (g : List ℝ) (w : Bool) (hr : InRange nv ts) :
    (t2vScalar nv vtx ts g w).sum = (wvals vtx ts g w).sum := by
  unfold t2vScalar
  rw [sum_scatter nv _ (fun p hp => hr p.1 (List.of_mem_zip hp).1)]
  congr 1
  apply List.map_snd_zip
  simp [wvals, C13.triAreas_eq]

/-- **`t2v_sum`.**  Unweighted transfer conserves the column sums: `Σ_{i<nv} out_i = Σ_τ f_τ`. -/
theorem t2v_sum {cols : Nat} (nv : Nat) (vtx : Nat → V3 ℝ) (ts : List Tri) (tf : List (List ℝ)) (k : Nat)
    (hr : InRange nv ts) (hlen : tf.length = ts.length) (hrect : Rect cols tf) :
    (col k (t2v nv vtx ts tf false)).sum = (col k tf).sum := by
  rw [col_t2v nv vtx ts hrect, t2vScalar_sum nv vtx ts _ _ hr]
  congr 1
  unfold wvals
  simp only [Bool.false_eq_true, ↓reduceIte]
  apply List.map_fst_zip
  simp [col_length, C13.triAreas_eq, hlen]

/-- **`t2v_weighted_sum`.**  With `weighted = true` the vertex sum is `Σ_τ f_τ · area(τ)`, `area = ½‖(v1−v0)×(v2−v0)‖`
    (no hypothesis on the number of rows: extra rows / triangles are dropped by the `zip` on both sides). -/
theorem t2v_weighted_sum {cols : Nat} (nv : Nat) (vtx : Nat → V3 ℝ) (ts : List Tri) (tf : List (List ℝ)) (k : Nat)
    (hr : InRange nv ts) (hrect : Rect cols tf) :
    (col k (t2v nv vtx ts tf true)).sum = (((col k tf).zip ts).map fun p => p.1 * areaOf vtx p.2).sum := by
  rw [col_t2v nv vtx ts hrect, t2vScalar_sum nv vtx ts _ _ hr]
  unfold wvals
  rw [C13.triAreas_eq, List.zip_map_right, List.map_map]
  rfl

/-- `Σ_{τ ∋ i} area(τ) / 3` (a triangle counts once per corner at `i`) -/
noncomputable def vertexAreaAt (vtx : Nat → V3 ℝ) (ts : List Tri) (i : Nat) : ℝ :=
  (ts.map fun τ => corner τ i * areaOf vtx τ).sum / 3

theorem length_vertexAreas (vtx : Nat → V3 ℝ) (ts : List Tri) :
    (Measures.vertexAreas vtx ts).length = ts.foldl (fun m τ => max m (max τ.1 (max τ.2.1 τ.2.2) + 1)) 0 := by
  unfold Measures.vertexAreas
  rw [List.length_map, List.length_range]

theorem vertexAreas_eq (vtx : Nat → V3 ℝ) (ts : List Tri) :
    Measures.vertexAreas vtx ts = (List.range (Measures.vertexAreas vtx ts).length).map (vertexAreaAt vtx ts) := by
  rw [length_vertexAreas]
  unfold Measures.vertexAreas vertexAreaAt
  simp only [Measures.crossArea_eq, corner_mul, areaOf, Measures.c, Nat.cast_ofNat]

theorem t2v_const_col (nv : Nat) (vtx : Nat → V3 ℝ) (ts : List Tri) (c : ℝ) (w : Bool) :
    col 0 (t2v nv vtx ts (ts.map fun _ => [c]) w) = (List.range nv).map fun i =>
      (ts.map fun τ => corner τ i * (if w then c * areaOf vtx τ else c)).sum / 3 := by
  have hrect : Rect 1 (ts.map fun _ => ([c] : List ℝ)) := rect_map _ _ fun _ => rfl
  have hc : col 0 (ts.map fun _ => ([c] : List ℝ)) = ts.map fun _ => c := by simp [col]
  have hw : wvals vtx ts (ts.map fun _ => c) w = ts.map fun τ => if w then c * areaOf vtx τ else c := by
    unfold wvals
    rw [C13.triAreas_eq, List.zip_map', List.map_map]
    rfl
  rw [col_t2v nv vtx ts hrect, hc]
  unfold t2vScalar
  rw [hw, List.zip_map_self]
  simp only [List.map_map, Function.comp_def]

/-- **`t2v_one_eq_vertex_areas`**, as a formula: for any `nv` the weighted transfer of the constant 1 is
    `vertexAreaAt`, i.e. `Σ_{τ∋i} area(τ)/3`, at every vertex `i < nv` … -/
theorem t2v_one_eq_vertex_areas (nv : Nat) (vtx : Nat → V3 ℝ) (ts : List Tri) :
    col 0 (t2v nv vtx ts (ts.map fun _ => [1]) true) = (List.range nv).map (vertexAreaAt vtx ts) := by
  rw [t2v_const_col]
  simp only [if_true, one_mul]
  rfl

/-- … and against the model function (the name differs from the previous one only in `vertexAreas`): it is
    `Measures.vertexAreas`, the model of `vertex_areas()`, when `nv` is the length of that array (largest used index + 1) -/
theorem t2v_one_eq_vertexAreas (nv : Nat) (vtx : Nat → V3 ℝ) (ts : List Tri)
    (hnv : nv = (Measures.vertexAreas vtx ts).length) :
    col 0 (t2v nv vtx ts (ts.map fun _ => [1]) true) = Measures.vertexAreas vtx ts := by
  rw [t2v_one_eq_vertex_areas, hnv, ← vertexAreas_eq]

theorem t2v_one_getD (nv : Nat) (vtx : Nat → V3 ℝ) (ts : List Tri) (i : Nat) (hi : i < nv)
    (hi' : i < (Measures.vertexAreas vtx ts).length) :
    (col 0 (t2v nv vtx ts (ts.map fun _ => [1]) true)).getD i 0 = (Measures.vertexAreas vtx ts).getD i 0 := by
  rw [t2v_one_eq_vertex_areas, List.getD_map_range _ _ _ hi]
  conv_rhs => rw [vertexAreas_eq, List.getD_map_range _ _ _ hi']

/-! ## 3. constants are NOT mapped to constants by `map_tfunc_to_vfunc` (finding F9) -/

/-- number of corner incidences of vertex `i` (number of triangles at `i` when triangles have distinct vertices) -/
def incidence (ts : List Tri) (i : Nat) : Nat := (C09.allVerts ts).count i

theorem sum_corner_eq_incidence (ts : List Tri) (i : Nat) : (ts.map fun τ => corner τ i).sum = (incidence ts i : ℝ) := by
  rw [incidence, C09.allVerts, List.count_flatMap, Nat.cast_list_sum, List.map_map]
  exact congrArg List.sum (List.map_congr_left fun τ _ => by
    simp only [corner, C09.triVerts, Function.comp, List.count_cons, List.count_nil, beq_iff_eq]; push_cast; ring)

/-- **`t2v_const_partial`.**  The clause "maps constants to constants" is FALSE for the unweighted
    `map_tfunc_to_vfunc`: the constant `c` is mapped to `c · incidence(i) / 3` at vertex `i`
    (counterexample: `t2v_const_counterexample`). -/
theorem t2v_const_partial (nv : Nat) (vtx : Nat → V3 ℝ) (ts : List Tri) (c : ℝ) :
    col 0 (t2v nv vtx ts (ts.map fun _ => [c]) false) = (List.range nv).map fun i => c * (incidence ts i : ℝ) / 3 := by
  rw [t2v_const_col]
  refine List.map_congr_left fun i _ => ?_
  simp only [Bool.false_eq_true, if_false]
  rw [List.sum_map_mul_right, sum_corner_eq_incidence, mul_comm]

/-- … hence the image of a non-zero constant is constant iff all vertices have the same number of incidences -/
theorem t2v_const_iff (nv : Nat) (vtx : Nat → V3 ℝ) (ts : List Tri) (c : ℝ) (hc : c ≠ 0) :
    (∀ i j, i < nv → j < nv → (col 0 (t2v nv vtx ts (ts.map fun _ => [c]) false)).getD i 0
        = (col 0 (t2v nv vtx ts (ts.map fun _ => [c]) false)).getD j 0) ↔
    (∀ i j, i < nv → j < nv → incidence ts i = incidence ts j) := by
  rw [t2v_const_partial]
  refine forall₄_congr fun i j hi hj => ?_
  rw [List.getD_map_range _ _ _ hi, List.getD_map_range _ _ _ hj, div_left_inj' three_ne_zero, mul_right_inj' hc, Nat.cast_inj]

def strip3 : List Tri := [(0, 1, 2), (1, 3, 2), (2, 3, 4)]

/-- **`t2v_const_counterexample`**: on `strip3` the constant 1 maps to `[1/3, 2/3, 1, 2/3, 1/3]`, for any coordinates -/
theorem t2v_const_counterexample (vtx : Nat → V3 ℝ) :
    col 0 (t2v 5 vtx strip3 (strip3.map fun _ => [1]) false) = [1 / 3, 2 / 3, 1, 2 / 3, 1 / 3] := by
  rw [t2v_const_partial, show List.range 5 = [0, 1, 2, 3, 4] from rfl]
  simp only [List.map_cons, List.map_nil, show incidence strip3 0 = 1 from rfl, show incidence strip3 1 = 2 from rfl,
    show incidence strip3 2 = 3 from rfl, show incidence strip3 3 = 2 from rfl, show incidence strip3 4 = 1 from rfl]
  norm_num

/-! ## 4. `map_vfunc_to_tfunc`: mean of the three corners -/

theorem v2t_mean {cols : Nat} (ts : List Tri) (vf : List (List ℝ)) (k : Nat) (hr : InRange vf.length ts)
    (hrect : Rect cols vf) :
    col k (v2t ts vf) = ts.map fun τ =>
      ((col k vf).getD τ.1 0 + (col k vf).getD τ.2.1 0 + (col k vf).getD τ.2.2 0) / 3 := by
  rw [v2t_eq, col, List.map_map]
  refine List.map_congr_left fun τ hτ => ?_
  obtain ⟨h0, h1, h2⟩ := hr τ hτ
  have hrow : ∀ {j}, j < vf.length →
      RowAt cols k (rowDiv (vf.getD j []) ((3 : Nat) : ℝ)) ((col k vf).getD j 0 / ((3 : Nat) : ℝ)) :=
    fun hj => by rw [getD_col]; exact (RowAt.of_length (hrect.getD hj)).div _
  rw [Function.comp_apply, (((hrow h0).add (hrow h1)).add (hrow h2)).2]
  push_cast
  ring

theorem row_thirds (r : List ℝ) :
    rowAdd (rowAdd (rowDiv r ((3 : Nat) : ℝ)) (rowDiv r ((3 : Nat) : ℝ))) (rowDiv r ((3 : Nat) : ℝ)) = r := by
  induction r with
  | nil => rfl
  | cons x r ih =>
    simp only [rowAdd, rowDiv, List.map_cons, List.zipWith_cons_cons] at ih ⊢
    rw [ih]
    congr 1
    push_cast
    ring

/-- **`v2t_const`**: a constant vertex function (all rows equal to `r`) is mapped to the constant triangle function -/
theorem v2t_const (nv : Nat) (ts : List Tri) (r : List ℝ) (hr : InRange nv ts) :
    v2t ts (List.replicate nv r) = List.replicate ts.length r := by
  rw [v2t_eq, ← List.map_const']
  refine List.map_congr_left fun τ hτ => ?_
  obtain ⟨h0, h1, h2⟩ := hr τ hτ
  have e : ∀ j, j < nv → (List.replicate nv r).getD j [] = r := by
    intro j hj; simp [List.getD_eq_getElem?_getD, hj]
  rw [e _ h0, e _ h1, e _ h2, row_thirds]

/-! ## 5. `smooth_vfunc`: a row-stochastic neighbour average -/

def deg (sk : List (Nat × Nat)) (i : Nat) : Nat := (rowNbrs sk i).length

/-- without the sort, so that it can be evaluated -/
theorem deg_eq (sk : List (Nat × Nat)) (i : Nat) :
    deg sk i = ((sk.eraseDups.filter fun k => k.1 == i).map (·.2)).length := by
  simp [deg, rowNbrs]

/-- the smoothing weights: `1/deg i` on the edge neighbours of `i`, zero elsewhere -/
noncomputable def W (sk : List (Nat × Nat)) (i j : Nat) : ℝ := if j ∈ rowNbrs sk i then 1 / (deg sk i : ℝ) else 0

/-- the stored neighbours of row `i` are the `j` with a stored key `(i,j)` (`mem_rowNbrs`), each once -/
theorem nodup_rowNbrs (sk : List (Nat × Nat)) (i : Nat) : (rowNbrs sk i).Nodup := by
  unfold rowNbrs
  rw [(List.mergeSort_perm _ _).nodup_iff]
  apply List.Nodup.map_on
  · rintro ⟨a, b⟩ ha ⟨c, d⟩ hc hbd
    have h1 : a = i := by simpa using (List.mem_filter.1 ha).2
    have h2 : c = i := by simpa using (List.mem_filter.1 hc).2
    simp only at hbd
    rw [h1, h2, hbd]
  · exact (List.nodup_eraseDups sk).filter _

/-- same members as the neighbour list of C09 (for triangles with distinct vertices) -/
theorem mem_rowNbrs_iff_neighbours (ts : List Tri) (hd : C09.Distinct ts) (i j : Nat) :
    j ∈ rowNbrs (Topo.symKeys ts) i ↔ j ∈ C09.neighbours ts i := by
  rw [mem_rowNbrs, C09.mem_symKeys_iff ts hd, C09.mem_neighbours, C09.edgeCount_comm]

theorem nbrsInRange_symKeys {n : Nat} {ts : List Tri} (hr : InRange n ts) : NbrsInRange (Topo.symKeys ts) n :=
  fun i j hj => (Topo.symKeys_lt hr ((mem_rowNbrs _ i j).1 hj)).2

theorem W_of_mem {sk : List (Nat × Nat)} {i j : Nat} (hj : j ∈ rowNbrs sk i) : W sk i j = 1 / (deg sk i : ℝ) := if_pos hj

theorem W_nonneg (sk : List (Nat × Nat)) (i j : Nat) : 0 ≤ W sk i j := by
  unfold W; split
  · exact one_div_nonneg.2 (Nat.cast_nonneg _)
  · exact le_refl 0

/-- the weights vanish off the stored pattern (stated for the adjacency of a mesh; the proof is `mem_rowNbrs` and holds
    for any key list) -/
theorem W_support (ts : List Tri) (i j : Nat) (h : W (Topo.symKeys ts) i j ≠ 0) : (i, j) ∈ Topo.symKeys ts := by
  unfold W at h
  split at h
  · rename_i hm; exact (mem_rowNbrs _ i j).1 hm
  · exact absurd rfl h

theorem W_sum_one (sk : List (Nat × Nat)) (i : Nat) (hd : 0 < deg sk i) :
    ((rowNbrs sk i).map (W sk i)).sum = 1 := by
  rw [List.map_congr_left fun j hj => W_of_mem hj, List.map_const', List.sum_replicate, nsmul_eq_mul]
  exact mul_one_div_cancel (Nat.cast_ne_zero.2 hd.ne')

/-- the area factor cancels: `(1·a_i) · (1 / (deg_i · 1·a_i)) = 1/deg_i` -/
theorem wgt_eq (sk : List (Nat × Nat)) (va : List ℝ) (i : Nat) (ha : va.getD i 0 ≠ 0) :
    wgt sk va i = 1 / (deg sk i : ℝ) := by
  rw [wgt, List.map_const', List.sum_replicate, nsmul_eq_mul, Nat.cast_one, one_mul, mul_one_div,
    div_mul_cancel_right₀ ha, one_div]
  rfl

/-- hypotheses under which smoothing is an average: neighbours are valid indices, every vertex has a non-zero area
    and at least one neighbour -/
structure Good (sk : List (Nat × Nat)) (va : List ℝ) (n : Nat) : Prop where
  inRange : NbrsInRange sk n
  area : ∀ i, i < n → va.getD i 0 ≠ 0
  nbr : ∀ i, i < n → 0 < deg sk i

/-- **`smooth1_weights`.**  `(smooth1 f)_i = Σ_{j ∈ nbr i} (1/deg i) · f_j`, column by column. -/
theorem smooth1_weights {cols : Nat} (sk : List (Nat × Nat)) (va : List ℝ) (f : List (List ℝ)) (k : Nat)
    (hrect : Rect cols f) (hin : NbrsInRange sk f.length) (i : Nat) (hi : i < f.length)
    (ha : va.getD i 0 ≠ 0) (hd : 0 < deg sk i) :
    (col k (smooth1 sk va f)).getD i 0 = ((rowNbrs sk i).map fun j => W sk i j * (col k f).getD j 0).sum := by
  rw [(smooth1_spec va hrect hin k).2, smooth1S, List.getD_map_range _ _ _ (by rw [col_length]; exact hi),
    wgt_eq sk va i ha]
  exact congrArg List.sum (List.map_congr_left fun j hj => by rw [W_of_mem hj])

def lin (α β : ℝ) (f g : List ℝ) : List ℝ := List.zipWith (fun x y => α * x + β * y) f g

theorem getD_lin (α β : ℝ) {f g : List ℝ} (h : f.length = g.length) (j : Nat) :
    (lin α β f g).getD j 0 = α * f.getD j 0 + β * g.getD j 0 :=
  getD_zipWith (fun x y => α * x + β * y) (by simp) h j

theorem lin_map {ι : Type} (α β : ℝ) (l : List ι) (F G : ι → ℝ) :
    lin α β (l.map F) (l.map G) = l.map fun i => α * F i + β * G i := by
  rw [lin, List.zipWith_map, List.zipWith_self]

/-- one application, single column; linearity needs no hypothesis on areas or degrees -/
theorem smooth1S_linear (sk : List (Nat × Nat)) (va : List ℝ) (α β : ℝ) (f g : List ℝ) (h : f.length = g.length) :
    smooth1S sk va (lin α β f g) = lin α β (smooth1S sk va f) (smooth1S sk va g) := by
  have hl : (lin α β f g).length = f.length := by simp [lin, h]
  unfold smooth1S
  rw [hl, ← h, lin_map]
  refine List.map_congr_left fun i _ => ?_
  rw [← List.sum_map_mul_left, ← List.sum_map_mul_left, ← List.sum_map_add]
  refine congrArg List.sum (List.map_congr_left fun j _ => ?_)
  rw [getD_lin α β h, mul_add, mul_left_comm, mul_left_comm (wgt sk va i)]

/-- clause **`smooth_iter`** (`smooth_zero`, `smooth_one`, `smooth_iter`): `n = 0` and `n = 1` apply the operator once,
    each further unit of `n` once more -/
theorem smooth_zero (sk : List (Nat × Nat)) (va : List ℝ) (f : List (List ℝ)) : smooth sk va f 0 = smooth1 sk va f := rfl
theorem smooth_one (sk : List (Nat × Nat)) (va : List ℝ) (f : List (List ℝ)) : smooth sk va f 1 = smooth1 sk va f := rfl
theorem smooth_iter (sk : List (Nat × Nat)) (va : List ℝ) (f : List (List ℝ)) (n : Nat) :
    smooth sk va f (n + 2) = smooth1 sk va (smooth sk va f (n + 1)) := by
  unfold smooth
  rw [show n + 2 - 1 = n + 1 from rfl, show n + 1 - 1 = n from rfl, List.range_succ, List.foldl_append]
  rfl

theorem smoothS_zero (sk : List (Nat × Nat)) (va g : List ℝ) : smoothS sk va g 0 = smooth1S sk va g := rfl
theorem smoothS_one (sk : List (Nat × Nat)) (va g : List ℝ) : smoothS sk va g 1 = smooth1S sk va g := rfl
theorem smoothS_induction (sk : List (Nat × Nat)) (va g : List ℝ) (P : List ℝ → Prop)
    (h1 : P (smooth1S sk va g)) (hstep : ∀ x, P x → P (smooth1S sk va x)) (n : Nat) : P (smoothS sk va g n) :=
  List.foldlRecOn _ _ h1 fun x hx _ _ => hstep x hx

theorem smoothS_linear (sk : List (Nat × Nat)) (va : List ℝ) (α β : ℝ) (f g : List ℝ) (h : f.length = g.length)
    (n : Nat) : smoothS sk va (lin α β f g) n = lin α β (smoothS sk va f n) (smoothS sk va g n) := by
  unfold smoothS
  generalize List.range (n - 1) = l
  induction l generalizing f g with
  | nil => exact smooth1S_linear sk va α β f g h
  | cons _ l ih =>
    rw [List.foldl_cons, List.foldl_cons, List.foldl_cons, smooth1S_linear sk va α β f g h]
    exact ih _ _ (by rw [smooth1S_length, smooth1S_length, h])

theorem smooth_linear {cols : Nat} (sk : List (Nat × Nat)) (va : List ℝ) (α β : ℝ) (F G H : List (List ℝ))
    (hF : Rect cols F) (hG : Rect cols G) (hH : Rect cols H) (hlen : G.length = H.length) (hFG : F.length = G.length)
    (hin : NbrsInRange sk F.length) (k n : Nat) (hcomb : col k F = lin α β (col k G) (col k H)) :
    col k (smooth sk va F n) = lin α β (col k (smooth sk va G n)) (col k (smooth sk va H n)) := by
  rw [smooth_spec va hF hin k n, smooth_spec va hG (hFG ▸ hin) k n,
    smooth_spec va hH (hlen ▸ hFG ▸ hin) k n, hcomb]
  exact smoothS_linear sk va α β _ _ (by rw [col_length, col_length, hlen]) n

theorem smooth1S_eq_W {sk : List (Nat × Nat)} {va : List ℝ} {n : Nat} (hg : Good sk va n) (g : List ℝ)
    (hlen : g.length = n) :
    smooth1S sk va g = (List.range n).map fun i => ((rowNbrs sk i).map fun j => W sk i j * g.getD j 0).sum := by
  unfold smooth1S
  rw [hlen]
  refine List.map_congr_left fun i hi => congrArg List.sum (List.map_congr_left fun j hj => ?_)
  have hi := List.mem_range.1 hi
  rw [wgt_eq sk va i (hg.area i hi), W_of_mem hj]

/-- one application, single column: a convex combination (`W_nonneg`, `W_sum_one`) stays between any bounds of the
    input -/
theorem smooth1S_range {sk : List (Nat × Nat)} {va : List ℝ} {n : Nat} (hg : Good sk va n) (g : List ℝ)
    (hlen : g.length = n) (lo hi : ℝ) (hb : ∀ x ∈ g, lo ≤ x ∧ x ≤ hi) :
    ∀ y ∈ smooth1S sk va g, lo ≤ y ∧ y ≤ hi := by
  rw [smooth1S_eq_W hg g hlen, List.forall_mem_map]
  intro i hi
  exact convex_sum_mem _ (W sk i) (fun j => g.getD j 0) (fun j _ => W_nonneg sk i j)
    (W_sum_one sk i (hg.nbr i (List.mem_range.1 hi))) fun j hj => hb _ (List.getD_mem (hlen ▸ hg.inRange i j hj))

theorem smooth1S_const {sk : List (Nat × Nat)} {va : List ℝ} {n : Nat} (hg : Good sk va n) (c : ℝ) :
    smooth1S sk va (List.replicate n c) = List.replicate n c := by
  rw [List.eq_replicate_iff]
  refine ⟨by simp [smooth1S_length], fun y hy => ?_⟩
  have := smooth1S_range hg (List.replicate n c) List.length_replicate c c
    (fun x hx => by rw [(List.mem_replicate.1 hx).2]; exact ⟨le_rfl, le_rfl⟩) y hy
  exact le_antisymm this.2 this.1

theorem smoothS_const {sk : List (Nat × Nat)} {va : List ℝ} {n : Nat} (hg : Good sk va n) (c : ℝ) (m : Nat) :
    smoothS sk va (List.replicate n c) m = List.replicate n c :=
  smoothS_induction sk va _ (fun x => x = List.replicate n c) (smooth1S_const hg c)
    (fun x hx => by rw [hx]; exact smooth1S_const hg c) m

theorem smoothS_range {sk : List (Nat × Nat)} {va : List ℝ} {n : Nat} (hg : Good sk va n) (g : List ℝ)
    (hlen : g.length = n) (lo hi : ℝ) (hb : ∀ x ∈ g, lo ≤ x ∧ x ≤ hi) (m : Nat) :
    ∀ y ∈ smoothS sk va g m, lo ≤ y ∧ y ≤ hi :=
  (smoothS_induction sk va g (fun x => x.length = n ∧ ∀ y ∈ x, lo ≤ y ∧ y ≤ hi)
    ⟨by rw [smooth1S_length, hlen], smooth1S_range hg g hlen lo hi hb⟩
    (fun x hx => ⟨by rw [smooth1S_length, hx.1], smooth1S_range hg x hx.1 lo hi hx.2⟩) m).2

/-- **`smooth_range`** for the list-of-rows model, ONE application: every column of `smooth1 f` stays within the
    bounds of that column -/
theorem smooth_range {cols : Nat} {sk : List (Nat × Nat)} {va : List ℝ} (f : List (List ℝ)) (hrect : Rect cols f)
    (hg : Good sk va f.length) (k : Nat) (lo hi : ℝ) (hb : ∀ x ∈ col k f, lo ≤ x ∧ x ≤ hi) :
    ∀ y ∈ col k (smooth1 sk va f), lo ≤ y ∧ y ≤ hi := by
  rw [(smooth1_spec va hrect hg.inRange k).2]
  exact smooth1S_range hg _ (col_length k f) lo hi hb

/-- **`smooth_range_iter`**: the same after any number of iterations (`smooth_vfunc(f, n)`) -/
theorem smooth_range_iter {cols : Nat} {sk : List (Nat × Nat)} {va : List ℝ} (f : List (List ℝ)) (hrect : Rect cols f)
    (hg : Good sk va f.length) (k : Nat) (lo hi : ℝ) (hb : ∀ x ∈ col k f, lo ≤ x ∧ x ≤ hi) (n : Nat) :
    ∀ y ∈ col k (smooth sk va f n), lo ≤ y ∧ y ≤ hi := by
  rw [smooth_spec va hrect hg.inRange k n]
  exact smoothS_range hg _ (col_length k f) lo hi hb n

/-- **`smooth_const`**: a constant vertex function (all rows equal to `r`) is reproduced in every column, for any
    number of iterations -/
theorem smooth_const {sk : List (Nat × Nat)} {va : List ℝ} {nv : Nat} (hg : Good sk va nv) (r : List ℝ) (k n : Nat) :
    col k (smooth sk va (List.replicate nv r) n) = List.replicate nv (r.getD k 0) := by
  have hrect : Rect r.length (List.replicate nv r) := fun x hx => by rw [(List.mem_replicate.1 hx).2]
  rw [smooth_spec va hrect (by rw [List.length_replicate]; exact hg.inRange) k n, col, List.map_replicate]
  exact smoothS_const hg _ n

/-! ## 6. `smooth_` acts in place on the coordinates -/

/-- **`smooth_inplace`**: `smooth_(n)` leaves the triangles alone and replaces the vertex coordinates by
    `smooth_vfunc(v, n)` computed with the cached adjacency and the current vertex areas -/
theorem smooth_inplace (s : History.TriState ℝ) (n : Nat) (hdim : History.adjDim s.symK = s.v.length) :
    History.triEffect s (.smooth n) =
      some ((Transfer.smooth s.symK (Measures.vertexAreas (History.vtxOfList s.v) s.t)
          (s.v.map fun p => [p.x, p.y, p.z]) n).map (fun r => ⟨r.getD 0 0, r.getD 1 0, r.getD 2 0⟩), s.t) := by
  simp [History.triEffect, hdim]

/-- when the cached adjacency does not have one row per vertex (trailing unused vertices, or a stale cache) `smooth_`
    raises (`ValueError` of the sparse product) and changes nothing -/
theorem smooth_inplace_err (s : History.TriState ℝ) (n : Nat) (hdim : History.adjDim s.symK ≠ s.v.length) :
    History.triEffect s (.smooth n) = none := by
  simp [History.triEffect, hdim]

/-- coordinate by coordinate: the new `x`-coordinates are the scalar smoothing of the old `x`-coordinates (likewise
    `y`, `z`) -/
theorem smooth_inplace_x (s : History.TriState ℝ) (n : Nat) (hin : NbrsInRange s.symK s.v.length)
    {v' : List (V3 ℝ)} {t' : List Tri} (h : History.triEffect s (.smooth n) = some (v', t')) :
    t' = s.t ∧
    v'.map (·.x) = smoothS s.symK (Measures.vertexAreas (History.vtxOfList s.v) s.t) (s.v.map (·.x)) n ∧
    v'.map (·.y) = smoothS s.symK (Measures.vertexAreas (History.vtxOfList s.v) s.t) (s.v.map (·.y)) n ∧
    v'.map (·.z) = smoothS s.symK (Measures.vertexAreas (History.vtxOfList s.v) s.t) (s.v.map (·.z)) n := by
  by_cases hdim : History.adjDim s.symK = s.v.length
  swap
  · rw [smooth_inplace_err s n hdim] at h; cases h
  rw [smooth_inplace s n hdim] at h
  cases h
  have hrect : Rect 3 (s.v.map fun p => [p.x, p.y, p.z]) := rect_map _ _ fun _ => rfl
  -- column `k` of the coordinate rows is the `k`-th coordinate, before and after smoothing
  have sp := fun k => smooth_spec (Measures.vertexAreas (History.vtxOfList s.v) s.t) hrect
    (by rw [List.length_map]; exact hin) k n
  simp only [col, List.map_map] at sp
  refine ⟨rfl, ?_⟩
  simp only [List.map_map]
  exact ⟨sp 0, sp 1, sp 2⟩

/-! ## non-vacuity: the unit square split into two triangles -/

def sq : List Tri := [(0, 1, 2), (1, 3, 2)]
noncomputable def vtxSq : Nat → V3 ℝ := vtx4 ⟨0, 0, 0⟩ ⟨1, 0, 0⟩ ⟨0, 1, 0⟩ ⟨1, 1, 0⟩

theorem sq_inRange : InRange 4 sq := by decide

theorem areaOf_sq0 : areaOf vtxSq (0, 1, 2) = 1 / 2 := Spec.triArea_unit
theorem areaOf_sq1 : areaOf vtxSq (1, 3, 2) = 1 / 2 := Spec.triArea_unit'

theorem rect_sq2 : Rect 2 [[1, 2], [3, (4 : ℝ)]] := by
  unfold Rect
  decide

example : (col 0 (t2v 4 vtxSq sq [[1, 2], [3, 4]] false)).sum = 4 ∧ (col 1 (t2v 4 vtxSq sq [[1, 2], [3, 4]] false)).sum = 6 := by
  rw [t2v_sum 4 vtxSq sq _ 0 sq_inRange rfl rect_sq2, t2v_sum 4 vtxSq sq _ 1 sq_inRange rfl rect_sq2]
  constructor <;> norm_num [col]

/-- `t2v_weighted_sum`: both triangles have area ½ -/
example : (col 0 (t2v 4 vtxSq sq [[1, 2], [3, 4]] true)).sum = 2 := by
  rw [t2v_weighted_sum 4 vtxSq sq _ 0 sq_inRange rect_sq2]
  simp only [col, sq, List.map_cons, List.map_nil, List.zip_cons_cons, List.zip_nil_right, List.sum_cons, List.sum_nil,
    areaOf_sq0, areaOf_sq1]
  norm_num

theorem vertexAreas_sq_length : (Measures.vertexAreas vtxSq sq).length = 4 := by
  rw [length_vertexAreas]; rfl

theorem vertexAreaAt_sq (i : Nat) : vertexAreaAt vtxSq sq i = (corner (0, 1, 2) i * (1 / 2) + corner (1, 3, 2) i * (1 / 2)) / 3 := by
  simp only [vertexAreaAt, sq, List.map_cons, List.map_nil, List.sum_cons, List.sum_nil, areaOf_sq0, areaOf_sq1, add_zero]

/-- `t2v_one_eq_vertexAreas`: the vertex areas of the square are `[1/6, 1/3, 1/3, 1/6]` (they add up to the area 1) -/
example : col 0 (t2v 4 vtxSq sq (sq.map fun _ => [1]) true) = Measures.vertexAreas vtxSq sq :=
  t2v_one_eq_vertexAreas 4 vtxSq sq vertexAreas_sq_length.symm
theorem vertexAreas_sq : Measures.vertexAreas vtxSq sq = [1 / 6, 1 / 3, 1 / 3, 1 / 6] := by
  rw [vertexAreas_eq, vertexAreas_sq_length, show List.range 4 = [0, 1, 2, 3] from rfl]
  simp only [List.map_cons, List.map_nil, vertexAreaAt_sq, corner]
  norm_num

example : col 0 (t2v 4 vtxSq sq (sq.map fun _ => [1]) false) = [1 / 3, 2 / 3, 2 / 3, 1 / 3] := by
  rw [t2v_const_partial, show List.range 4 = [0, 1, 2, 3] from rfl]
  simp only [List.map_cons, List.map_nil, show incidence sq 0 = 1 from rfl, show incidence sq 1 = 2 from rfl,
    show incidence sq 2 = 2 from rfl, show incidence sq 3 = 1 from rfl]
  norm_num

example : col 0 (v2t sq [[0], [3], [6], [9]]) = [3, 6] := by
  have hrect : Rect 1 [[0], [3], [6], [(9 : ℝ)]] := by
    unfold Rect
    decide
  rw [v2t_mean sq _ 0 (by decide) hrect]
  simp only [col, sq, List.map_cons, List.map_nil, List.getD_cons_zero, List.getD_cons_succ]
  norm_num
example : v2t sq (List.replicate 4 [(5 : ℝ), 7]) = List.replicate 2 [5, 7] := v2t_const 4 sq [5, 7] sq_inRange

/-- the hypotheses `Good` hold on the square with its true vertex areas -/
theorem sq_good : Good (Topo.symKeys sq) (Measures.vertexAreas vtxSq sq) 4 where
  inRange := nbrsInRange_symKeys sq_inRange
  area := by
    intro i hi
    rw [vertexAreas_sq]
    have : i = 0 ∨ i = 1 ∨ i = 2 ∨ i = 3 := by omega
    rcases this with rfl | rfl | rfl | rfl <;> norm_num
  nbr := by
    simp only [deg_eq]
    decide

def sqRows : List (List ℝ) := [[0, 0, 0], [1, 0, 0], [0, 1, 0], [1, 1, 0]]
theorem sqRows_rect : Rect 3 sqRows := by
  unfold Rect
  decide

example (n : Nat) : ∀ y ∈ col 0 (smooth (Topo.symKeys sq) (Measures.vertexAreas vtxSq sq) sqRows n), 0 ≤ y ∧ y ≤ 1 := by
  apply smooth_range_iter sqRows sqRows_rect (by simpa [sqRows] using sq_good) 0 0 1
  intro x hx
  simp [col, sqRows] at hx
  rcases hx with rfl | rfl | rfl | rfl <;> norm_num

example (n : Nat) : col 1 (smooth (Topo.symKeys sq) (Measures.vertexAreas vtxSq sq) (List.replicate 4 [5, 7]) n)
    = List.replicate 4 7 := smooth_const sq_good [5, 7] 1 n

/-- `smooth1_weights`: the weights at vertex 0 (two neighbours) are `1/2` on the neighbours -/
example : deg (Topo.symKeys sq) 0 = 2 ∧ W (Topo.symKeys sq) 0 1 = 1 / 2 ∧ W (Topo.symKeys sq) 0 3 = 0 := by
  have hd : deg (Topo.symKeys sq) 0 = 2 := by rw [deg_eq]; decide
  refine ⟨hd, ?_, ?_⟩
  · rw [W_of_mem ((mem_rowNbrs _ 0 1).2 (by decide)), hd]; norm_num
  · exact if_neg fun h => absurd ((mem_rowNbrs _ 0 3).1 h) (by decide)

example : ∃ v', History.triEffect (History.TriState.fresh [⟨0, 0, 0⟩, ⟨1, 0, 0⟩, ⟨0, 1, 0⟩, ⟨(1 : ℝ), 1, 0⟩] sq) (.smooth 3)
    = some (v', sq) := ⟨_, smooth_inplace _ 3 (by decide)⟩

end LapyVerif.Props.C15
