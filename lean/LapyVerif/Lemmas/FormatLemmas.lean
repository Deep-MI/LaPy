import Std.Data.String.ToNat
import Batteries.Data.String.Lemmas
import LapyVerif.Model.Formats
/-
  Helper lemmas for C14 (file formats): the model's string primitives brought down to `List Char`
  (`splitBy`, `words`, decimal tokens) and the token-stream functions (`takeNums`, `readLine`, `chunk`).
-/
namespace LapyVerif
namespace Formats

/-- the white-space test of the model's `words`; it is `Char.isWhitespace` (`isWs_eq`), which the trim lemmas speak -/
def isWs (c : Char) : Bool := c == ' ' || c == '\t' || c == '\r' || c == '\n'

def splitStep (p : Char → Bool) (st : List Char × List String) (c : Char) : List Char × List String :=
  if p c then ([], String.ofList st.1.reverse :: st.2) else (c :: st.1, st.2)

def splitFin (st : List Char × List String) : List String := (String.ofList st.1.reverse :: st.2).reverse

theorem splitBy_eq (p : Char → Bool) (s : String) :
    splitBy p s = splitFin (s.toList.foldl (splitStep p) ([], [])) := rfl

theorem words_eq (line : String) : words line = (splitBy isWs line).filter (· ≠ "") := rfl

theorem splitBy_eq_splitOnP (p : Char → Bool) (s : String) : splitBy p s = (s.toList.splitOnP p).map String.ofList := by
  have key : ∀ (l cur : List Char) (acc : List String),
      splitFin (l.foldl (splitStep p) (cur, acc)) = acc.reverse ++ (List.splitOnPPrepend p l cur).map String.ofList := by
    intro l
    induction l with
    | nil => intro cur acc; simp [splitFin]
    | cons x l ih =>
      intro cur acc
      simp only [List.foldl_cons, splitStep, List.splitOnPPrepend_cons_eq_if]
      split
      · rw [ih]; simp
      · rw [ih]
  rw [splitBy_eq, key]
  simp

-- a one-character separator is a string `sep` with `sep.toList = [c]` (`rfl` for a literal) in all lemmas below
theorem splitBy_append (p : Char → Bool) (a b sep : String) (c : Char) (hs : sep.toList = [c]) (hc : p c = true) :
    splitBy p (a ++ sep ++ b) = splitBy p a ++ splitBy p b := by
  simp only [splitBy_eq_splitOnP, String.toList_append, hs, List.append_assoc,
    List.singleton_append, List.splitOnP_append_cons _ _ hc, List.map_append]

theorem splitBy_none (p : Char → Bool) (s : String) (h : ∀ c ∈ s.toList, p c = false) : splitBy p s = [s] := by
  rw [splitBy_eq_splitOnP, List.splitOnP_eq_singleton h]
  simp

def NoWs (s : String) : Prop := ∀ c ∈ s.toList, isWs c = false

instance (s : String) : Decidable (NoWs s) := by unfold NoWs; infer_instance

def GoodTok (s : String) : Prop := s ≠ "" ∧ NoWs s

instance (s : String) : Decidable (GoodTok s) := by unfold GoodTok; infer_instance

theorem words_tok (s : String) (h : GoodTok s) : words s = [s] := by
  rw [words_eq, splitBy_none isWs s h.2]
  simp [h.1]

theorem words_empty : words "" = [] := by decide

theorem words_append_space (a b : String) : words (a ++ " " ++ b) = words a ++ words b := by
  rw [words_eq, words_eq, words_eq, ← List.filter_append, splitBy_append isWs a b " " ' ' rfl rfl]

theorem words_intercalate_flatMap (ts : List String) : words (" ".intercalate ts) = ts.flatMap words := by
  induction ts with
  | nil => exact words_empty
  | cons a ts ih =>
    cases ts with
    | nil => simp
    | cons b ts =>
      rw [String.intercalate_cons_cons, words_append_space, ih]
      simp

/-- **`" ".join(tokens).split() == tokens`** -/
theorem words_intercalate (ts : List String) (h : ∀ t ∈ ts, GoodTok t) : words (" ".intercalate ts) = ts := by
  rw [words_intercalate_flatMap, List.flatMap_def, List.map_congr_left fun t ht => words_tok t (h t ht), ← List.flatMap_def,
    List.flatMap_singleton']

-- `e` is a hypothesis because the call sites have the line bracketed otherwise and close it by `simp`
theorem words_three {a b c : String} (ha : GoodTok a) (hb : GoodTok b) (hc : GoodTok c) {line : String}
    (e : line = a ++ " " ++ b ++ " " ++ c) : words line = [a, b, c] := by
  rw [e, words_append_space, words_append_space, words_tok a ha, words_tok b hb, words_tok c hc]
  rfl

theorem GoodTok.ne_NL {s : String} (h : GoodTok s) : (s == NL) = false := by
  rw [beq_eq_false_iff_ne]
  rintro rfl
  exact absurd (h.2 '\n' (by decide)) (by decide)

theorem startsWith_eq_decide (s pat : String) : s.startsWith pat = decide (pat.toList <+: s.toList) := by
  rw [Bool.eq_iff_iff, String.startsWith_string_iff]; simp

theorem startsWith_self (s : String) : s.startsWith s = true := by
  rw [startsWith_eq_decide, decide_eq_true (List.prefix_refl _)]

theorem isDigit_eq (c : Char) : isDigit c = c.isDigit := by
  simp only [isDigit, Char.isDigit, Char.le_def, ge_iff_le]

theorem isWs_of_isDigit (c : Char) (h : isDigit c = true) : isWs c = false := by
  simp only [isDigit, Bool.and_eq_true, decide_eq_true_eq, Char.le_def] at h
  simp only [isWs, Bool.or_eq_false_iff, beq_eq_false_iff_ne]
  refine ⟨⟨⟨?_, ?_⟩, ?_⟩, ?_⟩ <;> (rintro rfl; revert h; decide)

def AllDigits (s : String) : Prop := s ≠ "" ∧ ∀ c ∈ s.toList, isDigit c = true

theorem isNatTok_iff (s : String) : isNatTok s = true ↔ AllDigits s := by
  unfold isNatTok AllDigits
  rw [Bool.and_eq_true, Bool.not_eq_true', String.all_bool_eq, List.all_eq_true, ← Bool.not_eq_true,
    String.isEmpty_iff]

theorem AllDigits.goodTok {s : String} (h : AllDigits s) : GoodTok s :=
  ⟨h.1, fun c hc => isWs_of_isDigit c (h.2 c hc)⟩

theorem AllDigits.not_startsWith_sign {s : String} (h : AllDigits s) :
    s.startsWith "-" = false ∧ s.startsWith "+" = false := by
  constructor
  · rw [String.startsWith_string_eq_false_iff]
    rintro ⟨t, ht⟩
    have := h.2 '-' (by rw [← ht]; simp)
    revert this; decide
  · rw [String.startsWith_string_eq_false_iff]
    rintro ⟨t, ht⟩
    have := h.2 '+' (by rw [← ht]; simp)
    revert this; decide

theorem AllDigits.stripSign {s : String} (h : AllDigits s) : stripSign s = s := by
  unfold Formats.stripSign
  rw [h.not_startsWith_sign.1, h.not_startsWith_sign.2]
  rfl

theorem AllDigits.isIntTok {s : String} (h : AllDigits s) : isIntTok s = true := by
  unfold Formats.isIntTok
  rw [h.stripSign, isNatTok_iff]; exact h

theorem toNat!_of_toNat? {s : String} {n : Nat} (h : s.toNat? = some n) : s.toNat! = n := by
  have hn := String.isNat_of_toNat?_eq_some h
  unfold String.toNat! String.Slice.toNat!
  rw [← String.toNat?_toSlice] at h
  unfold String.Slice.toNat? at h
  rw [String.isNat_toSlice] at h ⊢
  rw [hn] at h ⊢
  simp only [if_true, Option.some.injEq] at h
  simpa using h

theorem allDigits_toString (n : Nat) : AllDigits (toString n) := by
  show AllDigits (Nat.repr n)
  refine ⟨?_, ?_⟩
  · intro h
    have := congrArg String.toList h
    rw [Nat.toList_repr] at this
    simp at this
  · intro c hc
    rw [Nat.toList_repr] at hc
    rw [isDigit_eq]
    exact Nat.isDigit_of_mem_toDigits (by omega) (by omega) hc

theorem isNatTok_toString (n : Nat) : isNatTok (toString n) = true := (isNatTok_iff _).2 (allDigits_toString n)

theorem toNat!_toString (n : Nat) : (toString n).toNat! = n := toNat!_of_toNat? (Nat.toNat?_repr n)

theorem isIntTok_toString (n : Nat) : isIntTok (toString n) = true := (allDigits_toString n).isIntTok
theorem goodTok_toString (n : Nat) : GoodTok (toString n) := (allDigits_toString n).goodTok
theorem words_toString (n : Nat) : words (toString n) = [toString n] := words_tok _ (goodTok_toString n)
theorem not_startsWith_minus_toString (n : Nat) : (toString n).startsWith "-" = false :=
  (allDigits_toString n).not_startsWith_sign.1

theorem allDigits_of_mem_map_toString {ns : List Nat} {t : String} (h : t ∈ ns.map toString) : AllDigits t := by
  obtain ⟨n, _, rfl⟩ := List.mem_map.mp h
  exact allDigits_toString n

theorem map_eq_self {α : Type} {f : α → α} {l : List α} (h : ∀ a ∈ l, f a = a) : l.map f = l := by
  conv => rhs; rw [← List.map_id l]
  exact List.map_congr_left h

theorem map_toNat!_toString (e : List Nat) : (e.map toString).map (·.toNat!) = e := by
  rw [List.map_map]
  exact map_eq_self fun n _ => toNat!_toString n

theorem dropNL_cons_NL (r : List String) : dropNL (NL :: r) = dropNL r := by
  simp [dropNL]

theorem dropNL_cons_of_ne (t : String) (r : List String) (h : (t == NL) = false) : dropNL (t :: r) = t :: r := by
  simp [dropNL, h]

theorem takeNums_cons_NL (ok : String → Bool) (n : Nat) (acc r : List String) :
    takeNums ok n acc (NL :: r) = takeNums ok n acc r := by
  cases n with
  | zero => simp [takeNums, dropNL_cons_NL]
  | succ n => simp [takeNums]

theorem takeNums_cons_ok (ok : String → Bool) (n : Nat) (acc r : List String) (t : String)
    (h1 : (t == NL) = false) (h2 : ok t = true) :
    takeNums ok (n + 1) acc (t :: r) = takeNums ok n (t :: acc) r := by
  simp [takeNums, h1, h2]

theorem takeNums_row (ok : String → Bool) (row : List String) (h : ∀ t ∈ row, (t == NL) = false ∧ ok t = true)
    (m : Nat) (acc tail : List String) :
    takeNums ok (row.length + m) acc (row ++ tail) = takeNums ok m (row.reverse ++ acc) tail := by
  induction row generalizing acc with
  | nil => simp
  | cons t row ih =>
    have ht := h t List.mem_cons_self
    rw [List.length_cons, show row.length + 1 + m = (row.length + m) + 1 by omega, List.cons_append,
      takeNums_cons_ok ok _ acc _ t ht.1 ht.2, ih (fun t' ht' => h t' (List.mem_cons_of_mem _ ht'))]
    simp

theorem readLine_row (row : List String) (h : ∀ t ∈ row, (t == NL) = false) (rest : List String) :
    readLine (row ++ NL :: rest) = (row, rest) := by
  induction row with
  | nil => simp [readLine]
  | cons t row ih =>
    have ht := h t List.mem_cons_self
    simp only [List.cons_append, readLine, ht, Bool.false_eq_true, if_false,
      ih (fun t' ht' => h t' (List.mem_cons_of_mem _ ht'))]

theorem tokenize_cons (l : String) (ls : List String) : tokenize (l :: ls) = words l ++ NL :: tokenize ls := by
  simp [tokenize]

theorem tokenize_append (a b : List String) : tokenize (a ++ b) = tokenize a ++ tokenize b := by
  simp [tokenize]

/-! ### `String.splitOn` at a one-character separator

The model splits with its own `splitBy` (in `words`, `readVfunc`) and with core's `String.splitOn` (in `isFloatTok`,
`afterColon`, the eigenvalue line of `readEv`).  This section shows that the two agree for a one-character separator: both
are core's `List.splitOnP` on the character list. -/

section splitOn
open String

theorem singleton_eq_ofList (c : Char) : String.singleton c = ofList [c] := by
  apply String.toList_injective; simp

/-- with a one-character separator `splitOnAux` never holds a partial match (`j = 0`): at every pair of positions it runs as
    the legacy `splitAux` does with the test `· == c`, for which Batteries has `splitToList_of_valid` -/
theorem splitOnAux_char (s : String) (c : Char) (b i : Pos.Raw) (r : List String) :
    splitOnAux s (ofList [c]) b i 0 r = splitAux s (· == c) b i r := by
  have hget : (0 : Pos.Raw).get (ofList [c]) = c := by simpa using get_of_valid [] [c]
  have hnext : (0 : Pos.Raw).next (ofList [c]) = ⟨c.utf8Size⟩ := by simpa using next_of_valid [] c []
  have hend : (⟨c.utf8Size⟩ : Pos.Raw).atEnd (ofList [c]) = true := by rw [atEnd_iff, rawEndPos_ofList]; simp
  fun_induction splitAux s (· == c) b i r with
  | case1 b i r h => unfold splitOnAux; rw [if_pos h]
  | case2 b i r h _ hp _ ih =>
    have hun : (Pos.Raw.next s i).unoffsetBy ⟨c.utf8Size⟩ = i := by
      rw [← beq_iff_eq.mp hp]; simp [Pos.Raw.next, Pos.Raw.unoffsetBy]
    unfold splitOnAux
    simp only [h, hget, hp, hnext, hend, hun, if_true, Bool.false_eq_true, if_false]
    exact ih
  | case3 b i r h _ hp ih =>
    have hun : i.unoffsetBy 0 = i := by simp [Pos.Raw.unoffsetBy]
    unfold splitOnAux
    simp only [h, hget, hp, hun, Bool.false_eq_true, if_false]
    exact ih

theorem splitOn_char (s sep : String) (c : Char) (hs : sep.toList = [c]) :
    s.splitOn sep = (s.toList.splitOnP (· == c)).map ofList := by
  have hne : (ofList [c] == "") = false := by simp [← String.toList_inj]
  rw [← String.ofList_toList (s := sep), hs, splitOn, hne, ← splitToList_of_valid]
  exact splitOnAux_char s c 0 0 []

theorem splitOn_char_eq_splitBy (s sep : String) (c : Char) (hs : sep.toList = [c]) :
    s.splitOn sep = splitBy (fun x => x == c) s := by
  rw [splitOn_char s sep c hs, splitBy_eq_splitOnP]

end splitOn

theorem splitOnPPrepend_sep_free {α : Type} (p : α → Bool) (l acc : List α) (hacc : ∀ c ∈ acc, p c = false) :
    ∀ q ∈ List.splitOnPPrepend p l acc, ∀ c ∈ q, p c = false := by
  have hrev : ∀ c ∈ acc.reverse, p c = false := fun c hc => hacc c (List.mem_reverse.mp hc)
  induction l generalizing acc with
  | nil => exact List.forall_mem_singleton.mpr hrev
  | cons x l ih =>
    cases hx : p x with
    | true =>
      rw [List.splitOnPPrepend_cons_pos hx]
      exact List.forall_mem_cons.mpr ⟨hrev, ih [] (fun _ h => nomatch h) (fun _ h => nomatch h)⟩
    | false =>
      rw [List.splitOnPPrepend_cons_neg hx]
      have h' : ∀ c ∈ x :: acc, p c = false := List.forall_mem_cons.mpr ⟨hx, hacc⟩
      exact ih (x :: acc) h' fun c hc => h' c (List.mem_reverse.mp hc)

theorem goodTok_of_mem_words {line t : String} (h : t ∈ words line) : GoodTok t := by
  rw [words_eq, List.mem_filter, splitBy_eq_splitOnP, List.mem_map] at h
  obtain ⟨⟨q, hq, rfl⟩, hne⟩ := h
  exact ⟨by simpa using hne, fun c hc => splitOnPPrepend_sep_free isWs _ [] (fun _ h => nomatch h) q hq c (by simpa using hc)⟩

theorem readLine_tokenize (l : String) (ls : List String) : readLine (tokenize (l :: ls)) = (words l, tokenize ls) := by
  rw [tokenize_cons]
  exact readLine_row _ (fun t ht => (goodTok_of_mem_words ht).ne_NL) _

theorem dropNL_tokenize (l : String) (ls : List String) (h : words l ≠ []) :
    dropNL (tokenize (l :: ls)) = tokenize (l :: ls) := by
  rw [tokenize_cons]
  obtain ⟨t, r, e⟩ := List.exists_cons_of_ne_nil h
  rw [e]
  exact dropNL_cons_of_ne _ _ (goodTok_of_mem_words (e ▸ List.mem_cons_self)).ne_NL

theorem takeNums_dropNL (ok : String → Bool) (n : Nat) (acc toks : List String) :
    takeNums ok n acc (dropNL toks) = takeNums ok n acc toks := by
  induction toks with
  | nil => rfl
  | cons t r ih =>
    by_cases ht : (t == NL) = true
    · rw [show t = NL by simpa using ht, dropNL_cons_NL, takeNums_cons_NL, ih]
    · rw [dropNL_cons_of_ne _ _ (by simpa using ht)]

def RowsOk (ok : String → Bool) (k : Nat) (rows : List (List String)) : Prop :=
  ∀ r ∈ rows, r.length = k ∧ ∀ t ∈ r, GoodTok t ∧ ok t = true

section rows
variable {ok : String → Bool} {k : Nat} {rows : List (List String)}

theorem RowsOk.take (h : RowsOk ok k rows) (j : Nat) : RowsOk ok k (rows.take j) :=
  fun r hr => h r (List.mem_of_mem_take hr)

theorem RowsOk.length_flatten (h : RowsOk ok k rows) : rows.flatten.length = k * rows.length := by
  rw [List.length_flatten, List.map_congr_left fun r hr => (h r hr).1, List.map_const', List.sum_replicate_nat, Nat.mul_comm]

theorem RowsOk.chunk (h : RowsOk ok k rows) {n : Nat} (hn : rows.length = n) : chunk k n rows.flatten = rows := by
  subst hn
  induction rows with
  | nil => rfl
  | cons r rows ih =>
    have hr := (h r List.mem_cons_self).1
    simp only [List.length_cons, Formats.chunk, List.flatten_cons]
    rw [List.take_left' hr, List.drop_left' hr, ih fun r' hr' => h r' (List.mem_cons_of_mem _ hr')]

theorem takeNums_block_acc (h : RowsOk ok k rows) (m : Nat) (acc tail : List String) :
    takeNums ok (rows.flatten.length + m) acc (tokenize (rows.map (fun r => " ".intercalate r) ++ tail)) =
      takeNums ok m (rows.flatten.reverse ++ acc) (tokenize tail) := by
  induction rows generalizing acc with
  | nil => simp
  | cons r rows ih =>
    have hr := h r List.mem_cons_self
    rw [List.map_cons, List.cons_append, tokenize_cons, words_intercalate r fun t ht => (hr.2 t ht).1, List.flatten_cons,
      List.length_append, Nat.add_assoc,
      takeNums_row ok r (fun t ht => ⟨(hr.2 t ht).1.ne_NL, (hr.2 t ht).2⟩), takeNums_cons_NL,
      ih fun r' hr' => h r' (List.mem_cons_of_mem _ hr')]
    simp

/-- **`np.fromfile` over a block of lines**: the numbers of all rows in order; the stream continues with the next
    non-empty line -/
theorem takeNums_block (h : RowsOk ok k rows) {n : Nat} (hn : rows.length = n) (tail : List String) :
    takeNums ok (k * n) [] (tokenize (rows.map (fun r => " ".intercalate r) ++ tail)) =
      .ok (rows.flatten, dropNL (tokenize tail)) := by
  subst hn
  have := takeNums_block_acc h 0 [] tail
  rw [Nat.add_zero, h.length_flatten] at this
  rw [this]
  simp [takeNums]

theorem takeNums_block_short (h : RowsOk ok k rows) {n : Nat} (hn : k * rows.length < n) :
    takeNums ok n [] (tokenize (rows.map fun r => " ".intercalate r)) = .error .data := by
  obtain ⟨d, rfl⟩ : ∃ d, n = rows.flatten.length + (d + 1) := ⟨n - k * rows.length - 1, by rw [h.length_flatten]; omega⟩
  have := takeNums_block_acc h (d + 1) [] []
  rw [List.append_nil] at this
  rw [this]
  rfl
end rows

section mirror
open String

def stripSignL : List Char → List Char
  | '-' :: r => r
  | '+' :: r => r
  | l => l

def natL (l : List Char) : Bool := !l.isEmpty && l.all isDigit

theorem isNatTok_ofList (l : List Char) : isNatTok (ofList l) = natL l := by
  unfold isNatTok natL
  rw [String.all_bool_eq, String.toList_ofList]
  congr 2
  rw [Bool.eq_iff_iff, String.isEmpty_iff]
  cases l <;> simp

theorem isNatTok_eq (s : String) : isNatTok s = natL s.toList := by
  rw [← isNatTok_ofList, String.ofList_toList]

theorem stripSign_eq (s : String) : stripSign s = ofList (stripSignL s.toList) := by
  unfold stripSign
  apply String.toList_injective
  rw [String.toList_ofList]
  split
  · rename_i h
    show (s.drop 1).copy.toList = _
    rw [String.toList_copy_drop]
    simp only [Bool.or_eq_true, String.startsWith_string_iff] at h
    rcases h with ⟨t, ht⟩ | ⟨t, ht⟩
    · rw [← ht]; rfl
    · rw [← ht]; rfl
  · rename_i h
    simp only [Bool.or_eq_true, String.startsWith_string_iff, not_or] at h
    cases hl : s.toList with
    | nil => rfl
    | cons x r =>
      have h1 : x ≠ '-' := by
        rintro rfl; exact h.1 ⟨r, by rw [hl]; rfl⟩
      have h2 : x ≠ '+' := by
        rintro rfl; exact h.2 ⟨r, by rw [hl]; rfl⟩
      unfold stripSignL
      split
      · rename_i heq; simp only [List.cons.injEq] at heq; exact absurd heq.1 h1
      · rename_i heq; simp only [List.cons.injEq] at heq; exact absurd heq.1 h2
      · rfl

theorem isIntTok_ofList (l : List Char) : isIntTok (ofList l) = natL (stripSignL l) := by
  unfold isIntTok
  rw [stripSign_eq, String.toList_ofList, isNatTok_ofList]

theorem ofList_beq (l : List Char) (t : String) : (ofList l == t) = (l == t.toList) := by
  rw [Bool.eq_iff_iff, beq_iff_eq, beq_iff_eq]
  constructor
  · rintro rfl; simp
  · intro h; rw [h, String.ofList_toList]

theorem isEmpty_ofList (l : List Char) : (ofList l).isEmpty = l.isEmpty := by
  rw [Bool.eq_iff_iff, String.isEmpty_iff]
  cases l <;> simp

theorem splitOn_dot (m : List Char) : (ofList m).splitOn "." = (m.splitOnP (· == '.')).map ofList := by
  rw [splitOn_char _ "." '.' rfl, String.toList_ofList]

def mantL (m : List Char) : Bool :=
  match m.splitOnP (· == '.') with
  | [a] => natL a
  | [a, b] => (natL a && (b.isEmpty || natL b)) || (a.isEmpty && natL b)
  | _ => false

theorem mant_eq (m : List Char) :
    (match (ofList m).splitOn "." with
      | [a] => isNatTok a
      | [a, b] => (isNatTok a && (b.isEmpty || isNatTok b)) || (a.isEmpty && isNatTok b)
      | _ => false) = mantL m := by
  rw [splitOn_dot, mantL]
  rcases m.splitOnP (· == '.') with _ | ⟨a, _ | ⟨b, _ | ⟨x, r⟩⟩⟩ <;> simp [isNatTok_ofList, isEmpty_ofList]

/-- `isFloatTok` on the character list (computable by `decide`) -/
def isFloatTokL (l : List Char) : Bool :=
  let body := stripSignL l
  if body == ['n', 'a', 'n'] || body == ['i', 'n', 'f'] then true else
  let me : List Char × Option (List Char) := match body.splitOnP (· == 'e') with
    | [m] => (m, none)
    | [m, e] => (m, some e)
    | _ => ([], none)
  mantL me.1 && (match me.2 with | none => true | some e => natL (stripSignL e))

theorem isFloatTok_eq (s : String) : isFloatTok s = isFloatTokL s.toList := by
  unfold isFloatTok isFloatTokL
  rw [stripSign_eq]
  generalize stripSignL s.toList = body
  simp only [ofList_beq]
  rw [show ("nan" : String).toList = ['n', 'a', 'n'] by decide, show ("inf" : String).toList = ['i', 'n', 'f'] by decide]
  split
  · rfl
  · have he : (ofList body).splitOn "e" = (body.splitOnP (· == 'e')).map ofList := by
      rw [splitOn_char _ "e" 'e' rfl, String.toList_ofList]
    rw [he]
    rcases body.splitOnP (· == 'e') with _ | ⟨m, _ | ⟨e, _ | ⟨x, r⟩⟩⟩ <;>
      (simp only [List.map_nil, List.map_cons, ← mant_eq, isIntTok_ofList, show ("" : String) = ofList [] from rfl]; rfl)

example : isFloatTok "-1.25e-3" = true := by rw [isFloatTok_eq]; decide
example : isFloatTok "0.5" = true := by rw [isFloatTok_eq]; decide
example : isFloatTok "1e" = false := by rw [isFloatTok_eq]; decide

def trimStartL (l : List Char) : List Char := l.dropWhile Char.isWhitespace
def trimEndL (l : List Char) : List Char := (l.reverse.dropWhile Char.isWhitespace).reverse
def trimL (l : List Char) : List Char := trimEndL (trimStartL l)

theorem dropWhile_of_split (p : Char → Bool) (t d : List Char) (ht : ∀ c ∈ t, p c = true)
    (hd : d.head?.any p = false) : (t ++ d).dropWhile p = d := by
  rw [List.dropWhile_append_of_pos ht]
  cases d with
  | nil => rfl
  | cons x d => simp only [List.head?_cons, Option.any_some] at hd; simp [hd]

theorem slice_dropWhile_toList (sl : String.Slice) (p : Char → Bool) :
    (sl.dropWhile p).copy.toList = sl.copy.toList.dropWhile p := by
  have h1 : (sl.takeWhile p).copy ++ (sl.dropWhile p).copy = sl.copy := String.Slice.takeWhile_append_dropWhile
  have h2 : (sl.takeWhile p).all p = true := String.Slice.all_takeWhile
  have h3 : (sl.dropWhile p).startsWith p = false := String.Slice.startsWith_dropWhile
  rw [String.Slice.all_bool_eq, List.all_eq_true] at h2
  rw [String.Slice.startsWith_bool_eq_head?] at h3
  rw [← h1, String.toList_append, dropWhile_of_split p _ _ h2 h3]

theorem slice_dropEndWhile_toList (sl : String.Slice) (p : Char → Bool) :
    (sl.dropEndWhile p).copy.toList = (sl.copy.toList.reverse.dropWhile p).reverse := by
  have h1 : (sl.dropEndWhile p).copy ++ (sl.takeEndWhile p).copy = sl.copy :=
    String.Slice.dropEndWhile_append_takeEndWhile
  have h2 : (sl.takeEndWhile p).revAll p = true := String.Slice.revAll_takeEndWhile
  have h3 : (sl.dropEndWhile p).endsWith p = false := String.Slice.endsWith_dropEndWhile
  rw [String.Slice.revAll_bool_eq, List.all_eq_true] at h2
  rw [String.Slice.endsWith_bool_eq_getLast?] at h3
  rw [← h1, String.toList_append, List.reverse_append,
    dropWhile_of_split p _ _ (fun c hc => h2 c (List.mem_reverse.mp hc)) (by rwa [List.head?_reverse]),
    List.reverse_reverse]

theorem trimAsciiStart_eq (s : String) : s.trimAsciiStart.toString = ofList (trimStartL s.toList) := by
  apply String.toList_injective
  rw [String.toList_ofList]
  show (s.toSlice.dropWhile Char.isWhitespace).copy.toList = _
  rw [slice_dropWhile_toList]
  simp [trimStartL]

theorem trimAscii_eq (s : String) : s.trimAscii.toString = ofList (trimL s.toList) := by
  apply String.toList_injective
  rw [String.toList_ofList]
  show ((s.toSlice.dropWhile Char.isWhitespace).dropEndWhile Char.isWhitespace).copy.toList = _
  rw [slice_dropEndWhile_toList, slice_dropWhile_toList]
  simp [trimL, trimEndL, trimStartL]

example : ("  ab ".trimAscii.toString) = "ab" := by rw [trimAscii_eq]; decide

theorem isWs_eq (c : Char) : isWs c = c.isWhitespace := by
  simp only [isWs, Char.isWhitespace]
  rfl

theorem trimL_pad (t d t' : List Char) (ht : ∀ c ∈ t, Char.isWhitespace c = true) (ht' : ∀ c ∈ t', Char.isWhitespace c = true)
    (hd : d ≠ []) (h1 : d.head?.any Char.isWhitespace = false) (h2 : d.getLast?.any Char.isWhitespace = false) :
    trimL (t ++ d ++ t') = d := by
  have e1 : trimStartL (t ++ d ++ t') = d ++ t' := by
    rw [List.append_assoc]
    obtain ⟨x, r, rfl⟩ := List.exists_cons_of_ne_nil hd
    exact dropWhile_of_split _ t _ ht h1
  unfold trimL trimEndL
  rw [e1, List.reverse_append, dropWhile_of_split _ t'.reverse d.reverse (fun c hc => ht' c (List.mem_reverse.1 hc))
    (by rwa [List.head?_reverse]), List.reverse_reverse]

theorem trimL_id (l : List Char) (h1 : l.head?.any Char.isWhitespace = false)
    (h2 : l.getLast?.any Char.isWhitespace = false) : trimL l = l := by
  cases l with
  | nil => rfl
  | cons x r => simpa using trimL_pad [] (x :: r) [] (by simp) (by simp) (by simp) h1 h2

theorem trimAscii_id (s : String) (h1 : s.toList.head?.any Char.isWhitespace = false)
    (h2 : s.toList.getLast?.any Char.isWhitespace = false) : s.trimAscii.toString = s := by
  rw [trimAscii_eq, trimL_id _ h1 h2, String.ofList_toList]

theorem trimAscii_wrap (a m b : String) (ha : a ≠ "") (hb : b ≠ "") (h1 : a.toList.head?.any Char.isWhitespace = false)
    (h2 : b.toList.getLast?.any Char.isWhitespace = false) : (a ++ m ++ b).trimAscii.toString = a ++ m ++ b := by
  obtain ⟨x, r, ea⟩ := List.exists_cons_of_ne_nil fun h => ha (String.toList_eq_nil_iff.mp h)
  obtain ⟨r', y, eb⟩ : ∃ r' y, b.toList = r' ++ [y] :=
    ⟨_, _, (List.dropLast_concat_getLast fun h => hb (String.toList_eq_nil_iff.mp h)).symm⟩
  rw [ea] at h1
  rw [eb, List.getLast?_concat] at h2
  apply trimAscii_id
  · rw [String.toList_append, String.toList_append, ea]; exact h1
  · rw [String.toList_append, eb, ← List.append_assoc, List.getLast?_concat]; exact h2

theorem ends_of_noWs {l : List Char} (h : ∀ c ∈ l, isWs c = false) :
    l.head?.any Char.isWhitespace = false ∧ l.getLast?.any Char.isWhitespace = false := by
  refine ⟨?_, ?_⟩
  · cases l with
    | nil => rfl
    | cons x r => rw [List.head?_cons, Option.any_some, ← isWs_eq]; exact h x List.mem_cons_self
  · cases hl : l.getLast? with
    | none => rfl
    | some x => rw [Option.any_some, ← isWs_eq]; exact h x (List.mem_of_getLast? hl)

theorem trimAscii_tok (s : String) (h : NoWs s) : s.trimAscii.toString = s :=
  trimAscii_id s (ends_of_noWs h).1 (ends_of_noWs h).2

theorem splitBy_intercalate (p : Char → Bool) (sep : String) (c : Char) (hs : sep.toList = [c]) (hc : p c = true)
    (vals : List String) (hne : vals ≠ []) (h : ∀ v ∈ vals, ∀ x ∈ v.toList, p x = false) :
    splitBy p (sep.intercalate vals) = vals := by
  induction vals with
  | nil => exact absurd rfl hne
  | cons a vals ih =>
    cases vals with
    | nil =>
      rw [String.intercalate_singleton, splitBy_none p a (h a List.mem_cons_self)]
    | cons b vals =>
      rw [String.intercalate_cons_cons, splitBy_append p a _ sep c hs hc, splitBy_none p a (h a List.mem_cons_self),
        ih (by simp) fun v hv => h v (List.mem_cons_of_mem _ hv)]
      rfl

theorem stripChars_append (a b : String) (cs : List Char) :
    stripChars (a ++ b) cs = stripChars a cs ++ stripChars b cs := by
  apply String.toList_injective
  simp [stripChars, String.toList_append]

theorem stripChars_clean (s : String) (cs : List Char) (h : ∀ c ∈ s.toList, cs.contains c = false) :
    stripChars s cs = s := by
  unfold stripChars
  rw [List.filter_eq_self.mpr (fun c hc => by rw [h c hc]; rfl), String.ofList_toList]

theorem mem_intercalate (sep : String) (l : List String) (c : Char) (hc : c ∈ (sep.intercalate l).toList) :
    c ∈ sep.toList ∨ ∃ v ∈ l, c ∈ v.toList := by
  induction l with
  | nil => simp at hc
  | cons a l ih =>
    cases l with
    | nil => rw [String.intercalate_singleton] at hc; exact Or.inr ⟨a, by simp, hc⟩
    | cons b l =>
      rw [String.intercalate_cons_cons, String.toList_append, String.toList_append, List.mem_append, List.mem_append] at hc
      rcases hc with (hc | hc) | hc
      · exact Or.inr ⟨a, by simp, hc⟩
      · exact Or.inl hc
      · rcases ih hc with h | ⟨v, hv, h⟩
        · exact Or.inl h
        · exact Or.inr ⟨v, List.mem_cons_of_mem _ hv, h⟩

theorem forall_mem_intercalate {P : Char → Prop} {sep : String} {l : List String} (hs : ∀ c ∈ sep.toList, P c)
    (hl : ∀ v ∈ l, ∀ c ∈ v.toList, P c) : ∀ c ∈ (sep.intercalate l).toList, P c :=
  fun c hc => (mem_intercalate sep l c hc).elim (hs c) fun ⟨v, hv, h⟩ => hl v hv c h

theorem stripSignL_digits (l : List Char) (h : ∀ c ∈ l, isDigit c = true) : stripSignL l = l := by
  cases l with
  | nil => rfl
  | cons x r =>
    have hx := h x List.mem_cons_self
    unfold stripSignL
    split
    · rename_i heq; simp only [List.cons.injEq] at heq; rw [heq.1] at hx; exact absurd hx (by decide)
    · rename_i heq; simp only [List.cons.injEq] at heq; rw [heq.1] at hx; exact absurd hx (by decide)
    · rfl

theorem AllDigits.isFloatTok {s : String} (h : AllDigits s) : isFloatTok s = true := by
  rw [isFloatTok_eq]
  have hne : s.toList ≠ [] := fun e => h.1 (String.toList_eq_nil_iff.mp e)
  have hd := h.2
  generalize s.toList = l at hne hd
  unfold isFloatTokL
  rw [stripSignL_digits l hd]
  have hnan : (l == ['n', 'a', 'n'] || l == ['i', 'n', 'f']) = false := by
    rw [Bool.or_eq_false_iff, beq_eq_false_iff_ne, beq_eq_false_iff_ne]
    constructor <;> (rintro rfl; have := hd 'n' (by simp); revert this; decide)
  have he : l.splitOnP (· == 'e') = [l] :=
    (List.splitOnP_eq_singleton fun x hx => by
      have := hd x hx
      rw [beq_eq_false_iff_ne]; rintro rfl; revert this; decide)
  have hdot : l.splitOnP (· == '.') = [l] :=
    (List.splitOnP_eq_singleton fun x hx => by
      have := hd x hx
      rw [beq_eq_false_iff_ne]; rintro rfl; revert this; decide)
  have hnat : natL l = true := by
    unfold natL
    rw [Bool.and_eq_true, List.all_eq_true]
    refine ⟨?_, hd⟩
    cases l with
    | nil => exact absurd rfl hne
    | cons x r => rfl
  simp only [hnan, Bool.false_eq_true, if_false, he, mantL, hdot, hnat, Bool.and_self]

theorem isFloatTok_toString (n : Nat) : isFloatTok (toString n) = true := (allDigits_toString n).isFloatTok

theorem join_splitBy (sep : String) (c : Char) (hs : sep.toList = [c]) (s : String) :
    sep.intercalate (splitBy (fun x => x == c) s) = s := by
  apply String.toList_injective
  rw [String.toList_intercalate, splitBy_eq_splitOnP, List.map_map]
  have : (String.toList ∘ ofList) = id := by funext l; simp
  rw [this, List.map_id, hs]
  exact List.intercalate_splitOn c

theorem afterColon_eq (pre post : String) (h : ∀ x ∈ pre.toList, x ≠ ':') :
    afterColon (pre ++ ":" ++ post) = post.trimAscii.toString := by
  unfold afterColon
  rw [splitOn_char_eq_splitBy _ ":" ':' rfl, splitBy_append _ pre post ":" ':' rfl rfl,
    splitBy_none _ pre (fun x hx => by simpa using h x hx)]
  simp only [List.singleton_append, List.drop_one, List.tail_cons]
  rw [join_splitBy ":" ':' rfl]

theorem trimStart_space (s : String) (h : s.toList.head?.any Char.isWhitespace = false) :
    (" " ++ s).trimAsciiStart.toString = s := by
  rw [trimAsciiStart_eq, String.toList_append]
  have : (" " : String).toList = [' '] := by decide
  rw [this]
  have := dropWhile_of_split Char.isWhitespace [' '] s.toList (by decide) h
  simp only [trimStartL]
  rw [this, String.ofList_toList]

end mirror

theorem foldl_max_const (l : List Nat) (c : Nat) (h : ∀ x ∈ l, x = c) (hne : l ≠ []) : l.foldl max 0 = c := by
  obtain ⟨x, r, rfl⟩ := List.exists_cons_of_ne_nil hne
  have hx := h x List.mem_cons_self
  rw [List.foldl_max, List.max?_eq_some_iff.mpr ⟨hx ▸ List.mem_cons_self, fun b hb => Nat.le_of_eq (h b hb)⟩]
  simp

theorem map_zipIdx_map {α β γ : Type} (l : List α) (k : Nat) (f : α × Nat → β) (g : β → γ) (h : α → γ)
    (hfg : ∀ p, g (f p) = h p.1) : ((l.zipIdx k).map f).map g = l.map h := by
  rw [List.map_map, List.map_congr_left (f := g ∘ f) (g := h ∘ Prod.fst) fun p _ => hfg p, ← List.map_map,
    List.zipIdx_map_fst]

theorem find?_congr {α : Type} {l : List α} {p q : α → Bool} (h : ∀ a ∈ l, p a = q a) : l.find? p = l.find? q := by
  induction l with
  | nil => rfl
  | cons a l ih =>
    rw [List.find?_cons, List.find?_cons, h a List.mem_cons_self, ih fun b hb => h b (List.mem_cons_of_mem _ hb)]

theorem trim_space_left (v : String) : (" " ++ v).trimAscii.toString = v.trimAscii.toString := by
  rw [trimAscii_eq, trimAscii_eq, String.toList_append]
  rfl

theorem braceBlock_skip (l : String) (r : List String) (h : l.contains '{' = false) :
    braceBlock (l :: r) = braceBlock r := by
  rw [braceBlock]; simp [h]

theorem braceBlock_start (l : String) (r : List String) (h : l.contains '{' = true) :
    braceBlock (l :: r) = braceBlock.collect "" (l :: r) := by
  rw [braceBlock]; simp [h]

/-- concatenation nested to the right, as `braceBlock.collect` builds its text (`String.join` is a `foldl`) -/
def concatS : List String → String
  | [] => ""
  | a :: l => a ++ concatS l

theorem collect_block (pre : List String) (last : String) (rest : List String) (acc : String)
    (hpre : ∀ x ∈ pre, x.contains '}' = false) (hlast : last.contains '}' = true) :
    braceBlock.collect acc (pre ++ last :: rest) =
      some (acc ++ concatS (pre.map (·.trimAscii.toString)) ++ last.trimAscii.toString, rest) := by
  induction pre generalizing acc with
  | nil => simp [braceBlock.collect, hlast, concatS]
  | cons x pre ih =>
    rw [List.cons_append, braceBlock.collect]
    simp only [hpre x List.mem_cons_self, Bool.false_eq_true, if_false]
    rw [ih _ fun y hy => hpre y (List.mem_cons_of_mem _ hy)]
    simp only [List.map_cons, concatS, String.append_assoc]

theorem concatS_append (a b : List String) : concatS (a ++ b) = concatS a ++ concatS b := by
  induction a with
  | nil => simp [concatS]
  | cons x a ih => simp [concatS, ih, String.append_assoc]

theorem trim_pad (e : String) (h : GoodTok e) : (" " ++ e ++ " ").trimAscii.toString = e := by
  rw [trimAscii_eq, String.toList_append, String.toList_append,
    trimL_pad _ e.toList _ (by decide) (by decide) (fun h' => h.1 (String.toList_eq_nil_iff.mp h')) (ends_of_noWs h.2).1
      (ends_of_noWs h.2).2, String.ofList_toList]

theorem pad_intercalate (evals : List String) (hne : evals ≠ []) :
    " " ++ " ; ".intercalate evals ++ " " = ";".intercalate (evals.map fun e => " " ++ e ++ " ") := by
  induction evals with
  | nil => exact absurd rfl hne
  | cons a evals ih =>
    cases evals with
    | nil => rw [List.map_cons, List.map_nil, String.intercalate_singleton, String.intercalate_singleton]
    | cons b evals =>
      have ih' := ih (by simp)
      rw [List.map_cons] at ih'
      rw [List.map_cons, List.map_cons, String.intercalate_cons_cons, String.intercalate_cons_cons, ← ih',
        show (" ; " : String) = " " ++ ";" ++ " " by decide]
      simp only [String.append_assoc]

theorem words_space_left (z : String) : words (" " ++ z) = words z := by
  have := words_append_space "" z
  rw [words_empty, List.nil_append] at this
  rw [← this]; congr 1

theorem lookupS_mem {l : List (String × String)} {k v : String} (h : lookupS l k = some v) : ∃ k', (k', v) ∈ l := by
  unfold lookupS at h
  cases hf : l.find? (fun x => x.1 == k) with
  | none => rw [hf] at h; simp at h
  | some p =>
    rw [hf] at h
    simp only [Option.map_some, Option.some.injEq] at h
    exact ⟨p.1, h ▸ List.mem_of_find?_eq_some hf⟩

end Formats
end LapyVerif
