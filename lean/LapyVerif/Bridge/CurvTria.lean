import LapyVerif.Lemmas.BridgeTac
import LapyVerif.Model.Curvature
import LapyVerif.Generated.CurvTria
/-
  Bridge: `TriaMesh.curvature_tria` (lapy/tria_mesh.py), traced on the boundary of a generic tetrahedron with a symbolic
  per-vertex output of `curvature()`, is the model's `Curvature.triaDirs` applied to the pooled (corner-mean) minimum direction;
  the pooled curvatures are the corner means; `smoothit` is passed on to `curvature()`.
  (`Props/C17.curvTria_frame` proves that these two directions are unit, orthogonal and in the triangle plane.)
  The trace records the values of triangle 0; of the eight recorded floor decisions (normal length and projection length, one pair per
  triangle) the bridges use the pair of triangle 0 (`h.1`, `h.2.2.2.2.1`).
-/
namespace LapyVerif.Bridge

theorem proj_eq (a n : V3 ℝ) :
    a - V3.smul (V3.dot n a) n = ⟨a.x - n.x * V3.dot n a, a.y - n.y * V3.dot n a, a.z - n.z * V3.dot n a⟩ := by
  ext <;> (v3_flat; ring)

theorem curv_tria_umin (v0 v1 v2 v3 p0 p1 p2 p3 q0 q1 q2 q3 : V3 ℝ) (c0 c1 c2 c3 e0 e1 e2 e3 : ℝ)
    (h : Gen.CurvTria.pc v0 v1 v2 v3 p0 p1 p2 p3 q0 q1 q2 q3 c0 c1 c2 c3 e0 e1 e2 e3) :
    (let tm : V3 ℝ := ⟨p0.x / 3 + p1.x / 3 + p2.x / 3, p0.y / 3 + p1.y / 3 + p2.y / 3, p0.z / 3 + p1.z / 3 + p2.z / 3⟩
     let d := Curvature.triaDirs v0 v1 v2 tm
     [d.1.x, d.1.y, d.1.z]) = Gen.CurvTria.umin0 v0 v1 v2 v3 p0 p1 p2 p3 q0 q1 q2 q3 c0 c1 c2 c3 e0 e1 e2 e3 := by
  have h1 := h.1
  have h5 := h.2.2.2.2.1
  simp only [ge_iff_le] at h1 h5
  simp only [Curvature.triaDirs, Curvature.floor8, proj_eq, Gen.CurvTria.umin0, Gen.CurvTria.umin0_0,
    Gen.CurvTria.umin0_1, Gen.CurvTria.umin0_2]
  v3_flat []
  rw [if_neg (not_lt.mpr h1), if_neg (not_lt.mpr h5)]

theorem curv_tria_umax (v0 v1 v2 v3 p0 p1 p2 p3 q0 q1 q2 q3 : V3 ℝ) (c0 c1 c2 c3 e0 e1 e2 e3 : ℝ)
    (h : Gen.CurvTria.pc v0 v1 v2 v3 p0 p1 p2 p3 q0 q1 q2 q3 c0 c1 c2 c3 e0 e1 e2 e3) :
    (let tm : V3 ℝ := ⟨p0.x / 3 + p1.x / 3 + p2.x / 3, p0.y / 3 + p1.y / 3 + p2.y / 3, p0.z / 3 + p1.z / 3 + p2.z / 3⟩
     let d := Curvature.triaDirs v0 v1 v2 tm
     [d.2.x, d.2.y, d.2.z]) = Gen.CurvTria.umax0 v0 v1 v2 v3 p0 p1 p2 p3 q0 q1 q2 q3 c0 c1 c2 c3 e0 e1 e2 e3 := by
  have h1 := h.1
  have h5 := h.2.2.2.2.1
  simp only [ge_iff_le] at h1 h5
  simp only [Curvature.triaDirs, Curvature.floor8, proj_eq, Gen.CurvTria.umax0, Gen.CurvTria.umax0_0,
    Gen.CurvTria.umax0_1, Gen.CurvTria.umax0_2]
  v3_flat []
  rw [if_neg (not_lt.mpr h1), if_neg (not_lt.mpr h5)]

/-- the pooled curvature values are the corner means of `c_min` / `c_max` -/
theorem curv_tria_c (v0 v1 v2 v3 p0 p1 p2 p3 q0 q1 q2 q3 : V3 ℝ) (c0 c1 c2 c3 e0 e1 e2 e3 : ℝ) :
    Gen.CurvTria.cmin0 v0 v1 v2 v3 p0 p1 p2 p3 q0 q1 q2 q3 c0 c1 c2 c3 e0 e1 e2 e3 = c0 / 3 + c1 / 3 + c2 / 3 ∧
    Gen.CurvTria.cmax0 v0 v1 v2 v3 p0 p1 p2 p3 q0 q1 q2 q3 c0 c1 c2 c3 e0 e1 e2 e3 = e0 / 3 + e1 / 3 + e2 / 3 :=
  ⟨rfl, rfl⟩

/-- `curvature_tria(smoothit)` calls `curvature(smoothit)` exactly once (the tracer calls it with `smoothit = 5`; the recorder saw `[5]`) -/
theorem curv_tria_smooth : Gen.CurvTria.smoothSeen = [5] := by decide

/-! ### census: how many data-dependent decisions the tracer recorded (a branch added to the source changes the number) -/
theorem census_CurvTria_pcCount : Gen.CurvTria.pcCount = 8 := rfl

end LapyVerif.Bridge
