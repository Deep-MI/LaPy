import LapyVerif.Props.C06
import LapyVerif.Bridge.DiffGeo
import LapyVerif.Bridge.Fem
import LapyVerif.Bridge.Dispatch
/- axiom audit of C06 -/
#print axioms LapyVerif.Props.C06.triGrad_eq_spec
#print axioms LapyVerif.Props.C06.triGrad_char
#print axioms LapyVerif.Props.C06.triGrad_tangent
#print axioms LapyVerif.Props.C06.triGrad_affine
#print axioms LapyVerif.Props.C06.tetGrad_eq_spec
#print axioms LapyVerif.Props.C06.tetGrad_char
#print axioms LapyVerif.Props.C06.tetGrad_affine
#print axioms LapyVerif.Props.C06.triDiv_adjoint
#print axioms LapyVerif.Props.C06.triDiv_sum_zero
#print axioms LapyVerif.Props.C06.triDiv2_eq_triDiv
#print axioms LapyVerif.Props.C06.triDiv_grad
#print axioms LapyVerif.Props.C06.tetDiv_adjoint
#print axioms LapyVerif.Props.C06.tetDiv_sum_zero
#print axioms LapyVerif.Props.C06.tetDiv_grad
#print axioms LapyVerif.Props.C06.entry_col0
#print axioms LapyVerif.Spec.gradTri_affine
#print axioms LapyVerif.Bridge.triNormalLen_eq
#print axioms LapyVerif.Bridge.tetGradVol_eq
#print axioms LapyVerif.Bridge.tetDiv_entries
#print axioms LapyVerif.Bridge.diff_tri_grad
#print axioms LapyVerif.Bridge.diff_tri_div
#print axioms LapyVerif.Bridge.diff_tri_div2
#print axioms LapyVerif.Bridge.DiffTetPos_grad
#print axioms LapyVerif.Bridge.DiffTetNeg_grad
#print axioms LapyVerif.Bridge.DiffTetPos_div
#print axioms LapyVerif.Bridge.DiffTetNeg_div
#print axioms LapyVerif.Bridge.fem_tria_A
#print axioms LapyVerif.Bridge.fem_tet_A
#print axioms LapyVerif.Bridge.census_DiffTri_pcCount
#print axioms LapyVerif.Bridge.census_DiffTetPos_pcCount
#print axioms LapyVerif.Bridge.census_DiffTetNeg_pcCount
#print axioms LapyVerif.Bridge.census_FemTria_pcCount
#print axioms LapyVerif.Bridge.census_FemTriaMass_pcCount
#print axioms LapyVerif.Bridge.census_FemTriaAniso_pcCount
#print axioms LapyVerif.Bridge.census_FemTet_pcCount
#print axioms LapyVerif.Bridge.dispatch_facts
