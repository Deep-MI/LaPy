import LapyVerif.Props.C19c
#print axioms LapyVerif.Props.C19.le_maxL
#print axioms LapyVerif.Props.C19.minL_le
#print axioms LapyVerif.Props.C19.maxL_mem
#print axioms LapyVerif.Props.C19.minL_mem
#print axioms LapyVerif.Props.C19.maxL_neg
#print axioms LapyVerif.Props.C19.minL_neg
#print axioms LapyVerif.Props.C19.minL_eq_neg_maxL
#print axioms LapyVerif.Props.C19.flags_neg
#print axioms LapyVerif.Props.C19.poles_neg
#print axioms LapyVerif.Props.C19.unitRange_length
#print axioms LapyVerif.Props.C19.rescale_eq_div
#print axioms LapyVerif.Props.C19.rescale_spec
#print axioms LapyVerif.Props.C19.embed_eq
#print axioms LapyVerif.Props.C19.embed_error_iff
#print axioms LapyVerif.Props.C19.embed_ok_iff
#print axioms LapyVerif.Props.C19.embed_ok_eq
#print axioms LapyVerif.Props.C19.aligned1_axis
#print axioms LapyVerif.Props.C19.aligned2_axis
#print axioms LapyVerif.Props.C19.aligned3_axis
#print axioms LapyVerif.Props.C19.flip_axis
#print axioms LapyVerif.Props.C19.bothSigns_ite
#print axioms LapyVerif.Props.C19.second_symm
#print axioms LapyVerif.Props.C19.third_symm
#print axioms LapyVerif.Props.C19.embed_swap_symm
#print axioms LapyVerif.Props.C19.spatvol_symm
#print axioms LapyVerif.Props.C19.embed_length
#print axioms LapyVerif.Props.C19.unitRange_bounds
#print axioms LapyVerif.Props.C19.unitRange_mem_bounds
#print axioms LapyVerif.Props.C19.bothSigns_neg
#print axioms LapyVerif.Props.C19.embed_coords_bounded
#print axioms LapyVerif.Props.C19.embed_oct
