-- root of the library: importing the audit modules pulls in every lemma, bridge and property file and every model file but
-- `Model/Mobius.lean` (which only the driver imports).
-- In an audit module every `#print axioms` names its theorem fully qualified and no `open` is used: the check compares the names as text.
import LapyVerif.Audit.C01
import LapyVerif.Audit.C02
import LapyVerif.Audit.C03
import LapyVerif.Audit.C04
import LapyVerif.Audit.C05
import LapyVerif.Audit.C06
import LapyVerif.Audit.C07
import LapyVerif.Audit.C09
import LapyVerif.Audit.C10
import LapyVerif.Audit.C11
import LapyVerif.Audit.C12
import LapyVerif.Audit.C13
import LapyVerif.Audit.C15
import LapyVerif.Audit.C20
import LapyVerif.Audit.C08
import LapyVerif.Audit.C19
import LapyVerif.Audit.C16
import LapyVerif.Audit.C17
import LapyVerif.Audit.C18
import LapyVerif.Audit.Examples
import LapyVerif.Audit.C14
import LapyVerif.Audit.C14b
import LapyVerif.Audit.C19c
import LapyVerif.Audit.C02b
import LapyVerif.Audit.C04b
import LapyVerif.Audit.C19b
import LapyVerif.Audit.Measures2
