import LapyVerif.Lemmas.OrientFlood
/-
  Mesh-level facts for C10: what the neighbour pairs of `orient_` are for an edge-manifold, orientable triangle list,
  and the reading of `isOriented (flipBy f ts)` as "no two triangles traverse an edge in the same direction".
-/
namespace LapyVerif
namespace OrientMesh
open Orient Topo OrientLemmas Lemmas

def sw (b : Bool) (x : Nat × Nat) : Nat × Nat := if b then x.swap else x

theorem mem_dirEdges_swap01 (τ : Tri) (x : Nat × Nat) : x ∈ dirEdges (swap01 τ) ↔ x.swap ∈ dirEdges τ := by
  have hp : (dirEdges (swap01 τ)).Perm ((dirEdges τ).map Prod.swap) := (List.Perm.swap _ _ _).cons _
  obtain ⟨a, b⟩ := x
  rw [hp.mem_iff, ← List.count_pos_iff, count_map_swap, List.count_pos_iff]
  rfl

theorem mem_dirEdges_flipBy (f : Nat → Bool) (ts : List Tri) {k : Nat} (h : k < ts.length)
    (h' : k < (flipBy f ts).length) (x : Nat × Nat) :
    x ∈ dirEdges (flipBy f ts)[k] ↔ sw (f k) x ∈ dirEdges ts[k] := by
  rw [flipBy_getElem f ts k h]
  cases f k
  · exact Iff.rfl
  · exact mem_dirEdges_swap01 _ x

theorem TriDistinct.swap01 {τ : Tri} (h : TriDistinct τ) : TriDistinct (swap01 τ) := by
  obtain ⟨t0, t1, t2⟩ := τ
  simp only [TriDistinct, Orient.swap01] at h ⊢
  omega

theorem sw_sw (b c : Bool) (x : Nat × Nat) : sw b (sw c x) = sw (b != c) x := by
  cases b <;> cases c <;> rfl

theorem und_sw (b : Bool) (x : Nat × Nat) : und (sw b x) = und x := by
  cases b
  · rfl
  · exact und_swap x

/-- no directed edge is traversed by two different triangles after flipping the triangles selected by `f` -/
def OrientedBy (f : Nat → Bool) (ts : List Tri) : Prop :=
  ∀ A B (hA : A < ts.length) (hB : B < ts.length), A ≠ B →
    ∀ x, ¬ (sw (f A) x ∈ dirEdges ts[A] ∧ sw (f B) x ∈ dirEdges ts[B])

/-- `OrientedBy` read from one triangle to the other: a directed edge of `A` is not traversed by `B` in the relative
    direction `f A != f B`.  Only that relative flip enters, so a selection with the same relative flips along shared
    edges orients as well (`orientedBy_of_agree`) and the sign stored for a neighbour pair is determined (`pair_weight`). -/
theorem orientedBy_iff {f : Nat → Bool} {ts : List Tri} :
    OrientedBy f ts ↔ ∀ A B (hA : A < ts.length) (hB : B < ts.length), A ≠ B →
      ∀ y ∈ dirEdges ts[A], sw (f A != f B) y ∉ dirEdges ts[B] := by
  constructor
  · intro h A B hA hB hAB y hy hy'
    refine h A B hA hB hAB (sw (f A) y) ⟨?_, ?_⟩
    · rwa [sw_sw, bne_self_eq_false]
    · rwa [sw_sw, bne_comm]
  · rintro h A B hA hB hAB x ⟨h1, h2⟩
    refine h A B hA hB hAB _ h1 ?_
    have e : sw (f A != f B) (sw (f A) x) = sw (f B) x := by
      rw [sw_sw]; cases f A <;> cases f B <;> rfl
    rwa [e]

theorem isOriented_flipBy_iff {ts : List Tri} (hd : ∀ τ ∈ ts, TriDistinct τ) (hne : ts ≠ []) (f : Nat → Bool) :
    isOriented (flipBy f ts) = true ↔ OrientedBy f ts := by
  have hlen := flipBy_length f ts
  -- oriented ⇔ `dirKeys` has no duplicate ⇔ the directed edges of each triangle are distinct and those of two
  -- different triangles disjoint
  rw [isOriented_iff, ← List.nodup_iff_count_le_one, dirKeys_eq, List.nodup_flatMap, List.pairwise_iff_getElem]
  have hne' : flipBy f ts ≠ [] := by
    intro h; rw [h] at hlen; exact hne (List.length_eq_zero_iff.1 hlen.symm)
  have hnd : ∀ τ ∈ flipBy f ts, (dirEdges τ).Nodup := by
    intro τ hτ
    obtain ⟨k, hk, rfl⟩ := List.getElem_of_mem hτ
    rw [flipBy_getElem f ts k (by omega)]
    have := hd ts[k] (List.getElem_mem _)
    split
    · exact this.swap01.dirEdges_nodup
    · exact this.dirEdges_nodup
  constructor
  · rintro ⟨_, _, hp⟩ A B hA hB hAB x ⟨h1, h2⟩
    rw [← mem_dirEdges_flipBy f ts hA (by omega)] at h1
    rw [← mem_dirEdges_flipBy f ts hB (by omega)] at h2
    rcases Nat.lt_or_gt_of_ne hAB with hlt | hlt
    · exact hp A B (by omega) (by omega) hlt h1 h2
    · exact hp B A (by omega) (by omega) hlt h2 h1
  · intro h
    refine ⟨hne', hnd, ?_⟩
    intro A B hA hB hAB x h1 h2
    rw [mem_dirEdges_flipBy f ts (by omega)] at h1
    rw [mem_dirEdges_flipBy f ts (by omega)] at h2
    exact h A B (by omega) (by omega) (by omega) x ⟨h1, h2⟩

theorem triRows_nodup {τ : Tri} (hτ : TriDistinct τ) (k : Nat) : (triRows τ k).Nodup := by
  rw [triRows_eq]
  exact hτ.dirEdges_nodup.map_on fun _ hx _ hy h => hτ.und_inj hx hy (congrArg rowKey h)

theorem halfEdgeRows_nodup {ts : List Tri} (hd : ∀ τ ∈ ts, TriDistinct τ) : (halfEdgeRows ts).Nodup := by
  rw [halfEdgeRows_eq, List.nodup_flatMap]
  constructor
  · intro p hp
    exact triRows_nodup (hd _ (List.fst_mem_of_mem_zipIdx hp)) _
  · have h1 : (ts.zipIdx.map Prod.snd).Nodup := by
      rw [List.zipIdx_map_snd]; exact List.nodup_range'
    rw [List.Nodup, List.pairwise_map] at h1
    refine h1.imp ?_
    intro p q hpq r hr1 hr2
    obtain ⟨x, _, rfl⟩ := List.mem_map.1 (show r ∈ (dirEdges p.1).map (rowOf p.2) from hr1)
    obtain ⟨y, _, hxy⟩ := List.mem_map.1 (show rowOf p.2 x ∈ (dirEdges q.1).map (rowOf q.2) from hr2)
    exact hpq (congrArg (·.2.2.1) hxy).symm

theorem exists_row {ts : List Tri} {A : Nat} (hA : A < ts.length) {e : Nat × Nat} (he : e ∈ undEdges ts[A]) :
    ∃ r, r ∈ rowsAt (halfEdgeRows ts) e ∧ r.2.2.1 = A := by
  obtain ⟨x, hx, rfl⟩ := List.mem_map.1 (undEdges_eq ts[A] ▸ he)
  exact ⟨rowOf A x, mem_rowsAt.2 ⟨A, hA, x, hx, rfl, rfl⟩, rfl⟩

/-- the signed neighbour pairs computed by `orient_` -/
abbrev pairsOf (ts : List Tri) : List (Nat × Nat × Int) :=
  neighbourPairs (halfEdgeRows ts) (edgeCounts (halfEdgeRows ts))

/-- `-1` for the triangles flipped by the witness, `+1` for the others -/
def sgnOf (s : Nat → Bool) (k : Nat) : Int := if s k then -1 else 1

structure MeshOK (ts : List Tri) (s : Nat → Bool) : Prop where
  distinct : ∀ τ ∈ ts, TriDistinct τ
  manifold : ∀ e, (undKeys ts).count e ≤ 2
  oriented : OrientedBy s ts

/-- triangles `A` and `B` have an undirected edge in common (`Props.C10.ShareEdge` says it on vertices) -/
def Share (ts : List Tri) (A B : Nat) : Prop :=
  ∃ (hA : A < ts.length) (hB : B < ts.length) (e : Nat × Nat), e ∈ undEdges ts[A] ∧ e ∈ undEdges ts[B]

theorem rowsAt_nodup {ts : List Tri} (hd : ∀ τ ∈ ts, TriDistinct τ) (e : Nat × Nat) :
    (rowsAt (halfEdgeRows ts) e).Nodup := (halfEdgeRows_nodup hd).filter _

/-- anatomy of a neighbour pair `(A, B, w)`: `A ≠ B` have directed edges `x`, `y` over the same undirected edge, and
    `w = +1` iff `x` and `y` run in opposite directions -/
theorem pair_anatomy {ts : List Tri} (hd : ∀ τ ∈ ts, TriDistinct τ) {p : Nat × Nat × Int} (hp : p ∈ pairsOf ts) :
    ∃ (A B : Nat) (hA : A < ts.length) (hB : B < ts.length), ∃ x ∈ dirEdges ts[A], ∃ y ∈ dirEdges ts[B],
      und x = und y ∧ A ≠ B ∧ p = (A, B, if decide (x.1 < x.2) != decide (y.1 < y.2) then 1 else -1) := by
  obtain ⟨kc, _, _, hF⟩ := mem_neighbourPairs.1 hp
  obtain ⟨A, B, hA, hB, x, hx, y, hy, hxe, hye, hab, rfl⟩ := pairF_anatomy hF
  refine ⟨A, B, hA, hB, x, hx, y, hy, hxe.trans hye.symm, ?_, rfl⟩
  -- two rows of the same triangle over the same key would be the same row
  rintro rfl
  have hnd := rowsAt_nodup hd kc.1
  rw [hab, (hd _ (List.getElem_mem hA)).und_inj hx hy (hxe.trans hye.symm)] at hnd
  simp at hnd

theorem share_of_pair {ts : List Tri} (hd : ∀ τ ∈ ts, TriDistinct τ) {p : Nat × Nat × Int} (hp : p ∈ pairsOf ts) :
    p.1 ≠ p.2.1 ∧ Share ts p.1 p.2.1 := by
  obtain ⟨A, B, hA, hB, x, hx, y, hy, hxy, hne, rfl⟩ := pair_anatomy hd hp
  exact ⟨hne, hA, hB, und x, List.mem_map_of_mem hx, hxy ▸ List.mem_map_of_mem hy⟩

theorem pair_weight {ts : List Tri} {s : Nat → Bool} (h : MeshOK ts s) {p : Nat × Nat × Int} (hp : p ∈ pairsOf ts) :
    p.2.2 = sgnOf s p.1 * sgnOf s p.2.1 := by
  obtain ⟨A, B, hA, hB, x, hx, y, hy, hxy, hne, rfl⟩ := pair_anatomy h.distinct hp
  have hO := orientedBy_iff.1 h.oriented A B hA hB hne x hx
  have hx12 := (h.distinct _ (List.getElem_mem hA)).ne_of_dirEdge hx
  unfold sgnOf
  -- `B` traverses the common edge as `x` or as `x.swap`; `OrientedBy` says which
  rcases und_eq_und.1 hxy with rfl | rfl
  · have hs : s A ≠ s B := fun hs => hO (by rw [hs, bne_self_eq_false]; exact hy)
    simp only [bne_self_eq_false, Bool.false_eq_true, ↓reduceIte]
    cases hsA : s A <;> cases hsB : s B <;> first | exact absurd (hsA.trans hsB.symm) hs | rfl
  · have hs : s A = s B := by
      by_contra hs
      exact hO (by rw [(bne_iff_ne).2 hs]; exact hy)
    have hd : decide (y.swap.1 < y.swap.2) ≠ decide (y.1 < y.2) := by
      simp only [Prod.fst_swap, Prod.snd_swap] at hx12 ⊢
      simp only [ne_eq, decide_eq_decide]; omega
    simp only [hs, if_pos (bne_iff_ne.2 hd)]
    cases s B <;> rfl

open OrientFlood

theorem pairsOK {ts : List Tri} {s : Nat → Bool} (h : MeshOK ts s) : PairsOK ts.length (pairsOf ts) (sgnOf s) where
  sgn := by intro k; unfold sgnOf; split <;> simp
  lt := fun _ hp => pairs_idx_lt hp
  ne := fun _ hp => (share_of_pair h.distinct hp).1
  w := fun _ hp => pair_weight h hp

theorem share_of_adj {ts : List Tri} (hd : ∀ τ ∈ ts, TriDistinct τ) {A B : Nat} (h : Adj (pairsOf ts) A B) :
    A ≠ B ∧ Share ts A B :=
  h.of_pairs (R := fun A B => A ≠ B ∧ Share ts A B)
    (fun _ _ ⟨h1, hA, hB, e, he1, he2⟩ => ⟨h1.symm, hB, hA, e, he2, he1⟩) fun _ hp => share_of_pair hd hp

theorem rowsAt_of_share {ts : List Tri} (hm : ∀ e, (undKeys ts).count e ≤ 2) {A B : Nat} (hA : A < ts.length)
    (hB : B < ts.length) (hAB : A ≠ B) {e : Nat × Nat} (heA : e ∈ undEdges ts[A]) (heB : e ∈ undEdges ts[B]) :
    ∃ rA rB, rA.2.2.1 = A ∧ rB.2.2.1 = B ∧
      (rowsAt (halfEdgeRows ts) e = [rA, rB] ∨ rowsAt (halfEdgeRows ts) e = [rB, rA]) := by
  obtain ⟨rA, hrA, hiA⟩ := exists_row hA heA
  obtain ⟨rB, hrB, hiB⟩ := exists_row hB heB
  have hne : rA ≠ rB := by
    intro h; rw [h] at hiA; exact hAB (hiA.symm.trans hiB)
  have hlen : (rowsAt (halfEdgeRows ts) e).length ≤ 2 := by
    rw [rowsAt_length, rowKeys_halfEdgeRows]; exact hm e
  exact ⟨rA, rB, hiA, hiB, pair_of_length_le_two hlen hrA hrB hne⟩

theorem adj_of_share {ts : List Tri} (hm : ∀ e, (undKeys ts).count e ≤ 2) {A B : Nat} (hAB : A ≠ B) (hs : Share ts A B) :
    Adj (pairsOf ts) A B ∧ 2 ∈ (edgeCounts (halfEdgeRows ts)).map (·.2) := by
  obtain ⟨hA, hB, e, heA, heB⟩ := hs
  obtain ⟨rA, rB, hiA, hiB, hcase⟩ := rowsAt_of_share hm hA hB hAB heA heB
  have hcnt : (undKeys ts).count e = 2 := by
    rw [← rowKeys_halfEdgeRows, ← rowsAt_length]
    rcases hcase with h | h <;> rw [h] <;> rfl
  have hkc : (e, 2) ∈ edgeCounts (halfEdgeRows ts) := by
    rw [edgeCounts_eq, List.mem_map]
    exact ⟨e, List.mem_eraseDups.2 (List.count_pos_iff.1 (by omega)), by rw [hcnt]⟩
  refine ⟨?_, List.mem_map.2 ⟨(e, 2), hkc, rfl⟩⟩
  rcases hcase with hc | hc
  · exact ⟨_, mem_neighbourPairs.2 ⟨(e, 2), hkc, rfl, pairF_eq_some.2 ⟨_, _, hc, rfl⟩⟩, Or.inl ⟨hiA, hiB⟩⟩
  · exact ⟨_, mem_neighbourPairs.2 ⟨(e, 2), hkc, rfl, pairF_eq_some.2 ⟨_, _, hc, rfl⟩⟩, Or.inr ⟨hiB, hiA⟩⟩

abbrev tdim (ts : List Tri) : Nat := (pairsOf ts).foldl (fun m p => max m (max p.1 p.2.1)) 0 + 1

theorem tdim_eq_maxL (ts : List Tri) : tdim ts = maxL ((pairsOf ts).map fun p => max p.1 p.2.1) + 1 := by
  rw [tdim, maxL, List.foldl_map]

theorem tdim_le {ts : List Tri} (hne : ts ≠ []) : tdim ts ≤ ts.length := by
  have hpos : 0 < ts.length := List.length_pos_iff.2 hne
  have h : maxL ((pairsOf ts).map fun p => max p.1 p.2.1) ≤ ts.length - 1 := by
    rw [maxL_le]
    intro x hx
    obtain ⟨p, hp, rfl⟩ := List.mem_map.1 hx
    have := pairs_idx_lt hp
    omega
  rw [tdim_eq_maxL]
  omega

/-- every triangle shares an edge with another one (`tdim = ts.length`, `tdim_eq`) -/
def AllShare (ts : List Tri) : Prop := ∀ A, A < ts.length → ∃ B, B ≠ A ∧ Share ts A B

theorem tdim_eq {ts : List Tri} (hm : ∀ e, (undKeys ts).count e ≤ 2) (hne : ts ≠ []) (hall : AllShare ts) :
    tdim ts = ts.length := by
  refine Nat.le_antisymm (tdim_le hne) ?_
  have hpos : 0 < ts.length := List.length_pos_iff.2 hne
  obtain ⟨B, hB, hsh⟩ := hall (ts.length - 1) (by omega)
  obtain ⟨⟨p, hp, hk⟩, _⟩ := adj_of_share hm (Ne.symm hB) hsh
  have := le_maxL _ _ (List.mem_map_of_mem (f := fun p : Nat × Nat × Int => max p.1 p.2.1) hp)
  rw [tdim_eq_maxL]
  rcases hk with ⟨h1, _⟩ | ⟨_, h1⟩ <;> omega

theorem check_passes {ts : List Tri} (hm : ∀ e, (undKeys ts).count e ≤ 2) (hne : ts ≠ []) (hall : AllShare ts) :
    (maxL ((edgeCounts (halfEdgeRows ts)).map (·.2)) != 2 || ((edgeCounts (halfEdgeRows ts)).map (·.2)).any (· < 1))
      = false := by
  have hpos : 0 < ts.length := List.length_pos_iff.2 hne
  obtain ⟨B, hB, hsh⟩ := hall 0 hpos
  obtain ⟨_, h2⟩ := adj_of_share hm (Ne.symm hB) hsh
  have hmax : maxL ((edgeCounts (halfEdgeRows ts)).map (·.2)) = 2 := by
    apply Nat.le_antisymm
    · rw [maxL_le]
      intro x hx
      obtain ⟨k, _, rfl⟩ := (mem_edgeCounts_snd ts x).1 hx
      exact hm k
    · exact le_maxL _ _ h2
  rw [Bool.or_eq_false_iff]
  constructor
  · simp [hmax]
  · rw [List.any_eq_false]
    intro x hx
    obtain ⟨k, hk, rfl⟩ := (mem_edgeCounts_snd ts x).1 hx
    have := List.count_pos_iff.2 hk
    simp; omega

theorem column0_short {ts : List Tri} {s : Nat → Bool} (h : MeshOK ts s) {k : Nat} (hk0 : k ≠ 0) (hk : k < ts.length)
    (hns : ¬ Share ts k 0) : (column ts.length (pairsOf ts) 0).length < ts.length := by
  have hidx := column_idxOK ts.length (pairsOf ts) 0
  have hnot : k ∉ supp (column ts.length (pairsOf ts) 0) := by
    intro hmem
    obtain ⟨x, hx⟩ := mem_supp.1 hmem
    rcases ((mem_column (pairsOK h) (by omega) k x).1 hx).1 with h0 | hadj
    · exact hk0 h0
    · exact hns (share_of_adj h.distinct hadj).2
  exact hidx.length_lt_of_not_mem hk hnot

/-- a selection `f` that agrees with the witness `s` up to a sign which is the same for any two triangles with a common
    edge also orients the list -/
theorem orientedBy_of_agree {ts : List Tri} {s : Nat → Bool} (h : MeshOK ts s) {f : Nat → Bool}
    (hf : ∀ A B, A ≠ B → Share ts A B → (f A = f B ↔ s A = s B)) : OrientedBy f ts := by
  rw [orientedBy_iff]
  intro A B hA hB hAB y hy hy'
  have hsh : Share ts A B :=
    ⟨hA, hB, und y, List.mem_map_of_mem hy, und_sw _ y ▸ List.mem_map_of_mem (f := und) hy'⟩
  have hx : (f A != f B) = (s A != s B) := by
    have := hf A B hAB hsh
    revert this
    cases f A <;> cases f B <;> cases s A <;> cases s B <;> decide
  rw [hx] at hy'
  exact orientedBy_iff.1 h.oriented A B hA hB hAB y hy hy'

/-- the indices stored with `-1`: the triangles `consistent` flips -/
def negOf (v : SVec) : List Nat := (v.filter fun e => e.2 == -1).map (·.1)

theorem mem_negOf {n : Nat} {v : SVec} {f : Nat → Int} (hv : v.map (·.1) = List.range n) (he : ∀ e ∈ v, e.2 = f e.1)
    {k : Nat} (hk : k < n) : k ∈ negOf v ↔ f k = -1 := by
  unfold negOf
  rw [List.mem_map]
  constructor
  · rintro ⟨e, hmem, rfl⟩
    rw [List.mem_filter] at hmem
    rw [← he e hmem.1]
    simpa using hmem.2
  · intro hf
    obtain ⟨e, hmem, rfl⟩ := List.mem_map.1 (hv ▸ List.mem_range.2 hk)
    exact ⟨e, List.mem_filter.2 ⟨hmem, by rw [he e hmem, hf]; rfl⟩, rfl⟩

theorem negOf_agree {n : Nat} {pairs : List (Nat × Nat × Int)} {s : Nat → Bool} {g : Nat → Int} {v : SVec}
    (hv : v.map (·.1) = List.range n) (he : ∀ e ∈ v, e.2 = sgnOf s e.1 * g e.1) (hg : Gauge pairs g)
    {A B : Nat} (hA : A < n) (hB : B < n) (hgAB : g A = g B) :
    (decide (A ∈ negOf v) = decide (B ∈ negOf v)) ↔ s A = s B := by
  have hm := @mem_negOf n v (fun k => sgnOf s k * g k) hv he
  rw [Bool.eq_iff_iff, decide_eq_true_iff, decide_eq_true_iff, hm hA, hm hB, ← hgAB]
  unfold sgnOf
  rcases hg.sgn A with hc | hc <;> rw [hc] <;> cases s A <;> cases s B <;> decide

theorem consistent_eq (ts : List Tri) : consistent ts =
    if isOriented ts then some (some (ts, 0))
    else if maxL ((edgeCounts (halfEdgeRows ts)).map (·.2)) != 2 || ((edgeCounts (halfEdgeRows ts)).map (·.2)).any (· < 1)
      then some none
    else (flood (tdim ts) (pairsOf ts) (2 * tdim ts + 2) (column (tdim ts) (pairsOf ts) 0) 0).map fun v =>
      some (flipBy (fun k => decide (k ∈ negOf v)) ts, (negOf v).length) := by
  unfold consistent
  split
  · rfl
  · dsimp only
    split
    · rfl
    · cases flood (tdim ts) (pairsOf ts) (2 * tdim ts + 2) (column (tdim ts) (pairsOf ts) 0) 0 with
      | none => rfl
      | some v =>
        simp only [flipBy, negOf, List.contains_eq_mem, Option.map_some]
        rfl

/-- **Core of section 4 of `Props/C10.lean`.**  For an edge-manifold list of proper triangles with orientation witness `s`, in which every
    triangle has a neighbour, phase 1 terminates and returns an oriented list — provided the very first column is not
    already a full, un-normalised vector (see `Props/C10.lean` for the counterexample without this proviso). -/
theorem consistent_oriented_core {ts : List Tri} {s : Nat → Bool} (h : MeshOK ts s) (hne : ts ≠ []) (hall : AllShare ts)
    (h0 : Norm (column ts.length (pairsOf ts) 0) ∨ (column ts.length (pairsOf ts) 0).length < ts.length) :
    ∃ ts' n, consistent ts = some (some (ts', n)) ∧ isOriented ts' = true := by
  by_cases hor : isOriented ts = true
  · exact ⟨ts, 0, by rw [consistent_eq, if_pos hor], hor⟩
  · have hpos : 0 < ts.length := List.length_pos_iff.2 hne
    obtain ⟨v, g, hfl, hidx, hg, hval⟩ := flood_spec (pairsOK h) hpos h0
    refine ⟨_, _, by rw [consistent_eq, if_neg hor, check_passes h.manifold hne hall, tdim_eq h.manifold hne hall, hfl]; rfl, ?_⟩
    rw [isOriented_flipBy_iff h.distinct hne]
    apply orientedBy_of_agree h
    intro A B hAB hsh
    obtain ⟨hadj, _⟩ := adj_of_share h.manifold hAB hsh
    obtain ⟨hA, hB, _⟩ := hsh
    exact negOf_agree hidx hval hg hA hB (hg.adj hadj)

end OrientMesh
end LapyVerif
