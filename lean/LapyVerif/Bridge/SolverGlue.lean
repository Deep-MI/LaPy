import LapyVerif.Lemmas.Assembly
import LapyVerif.Generated.SolverGlue
/-
  Bridge: the glue of `Solver.eigs` (lapy/solver.py) and `heat.diffusion` (lapy/heat.py) traced on symbolic 3×3 matrices with the
  external kernels (`splu`, `eigsh`) replaced by recorders:
  * the matrix factorised by `eigs` is `A − σB` entry by entry, with the shift `σ = −1/100 < 0` also handed to `eigsh`;
  * `eigsh` receives `(A, k, M = B, sigma = σ, OPinv = LinearOperator(lu.solve))` and its output is returned unchanged;
  * `diffusion` factorises `B + (m·ℓ²)·A` (`ℓ` = `avg_edge_length()`), solves for the indicator vector of the seed vertices, builds
    its Solver with `lump=True` and the caller's `aniso`, and returns the solver output unchanged.
-/
set_option linter.unusedTactic false
-- a closing `ring` after `simp only … <;>` runs only on entries the kernel computes in another (algebraically equal) form
set_option linter.unreachableTactic false
namespace LapyVerif.Bridge

def M3 (a00 a01 a02 a10 a11 a12 a20 a21 a22 : ℝ) : Coo ℝ :=
  [((0, 0), a00), ((0, 1), a01), ((0, 2), a02), ((1, 0), a10), ((1, 1), a11), ((1, 2), a12), ((2, 0), a20), ((2, 1), a21), ((2, 2), a22)]

/-- the shift handed to `eigsh` and used in the factorised matrix is negative -/
theorem glue_sigma (a00 a01 a02 a10 a11 a12 a20 a21 a22 b00 b01 b02 b10 b11 b12 b20 b21 b22 m ell : ℝ) :
    Gen.SolverGlue.sigma a00 a01 a02 a10 a11 a12 a20 a21 a22 b00 b01 b02 b10 b11 b12 b20 b21 b22 m ell = -(1 / 100) ∧
    Gen.SolverGlue.sigma a00 a01 a02 a10 a11 a12 a20 a21 a22 b00 b01 b02 b10 b11 b12 b20 b21 b22 m ell < 0 := by
  simp only [Gen.SolverGlue.sigma]
  norm_num

/-- **matrix factorised by `eigs`** = the model's `A − σB`, entry by entry: the model's sparse sum is the concatenation of two triplet
    lists (18 triplets on 9 positions), the recorded matrix has one triplet per position (`glue_shifted_keys`), so the two are compared
    through `Coo.entry`; likewise `glue_heat` -/
theorem glue_shifted (a00 a01 a02 a10 a11 a12 a20 a21 a22 b00 b01 b02 b10 b11 b12 b20 b21 b22 m ell : ℝ) :
    ∀ e ∈ Gen.SolverGlue.shifted a00 a01 a02 a10 a11 a12 a20 a21 a22 b00 b01 b02 b10 b11 b12 b20 b21 b22 m ell,
      Coo.entry (Spectral.shiftMat (-(1 / 100) : ℝ) (M3 a00 a01 a02 a10 a11 a12 a20 a21 a22) (M3 b00 b01 b02 b10 b11 b12 b20 b21 b22)) e.1.1 e.1.2 = e.2 := by
  intro e he
  simp only [Gen.SolverGlue.shifted, List.mem_cons, List.not_mem_nil, or_false] at he
  rcases he with rfl | rfl | rfl | rfl | rfl | rfl | rfl | rfl | rfl <;>
  · simp only [Coo.entry_shiftMat, M3, Coo.entry_cons, Coo.entry_nil, Nat.reduceEqDiff, and_self, and_true, and_false, ↓reduceIte,
      add_zero, zero_add, Gen.SolverGlue.shifted_0, Gen.SolverGlue.shifted_1, Gen.SolverGlue.shifted_2, Gen.SolverGlue.shifted_3,
      Gen.SolverGlue.shifted_4, Gen.SolverGlue.shifted_5, Gen.SolverGlue.shifted_6, Gen.SolverGlue.shifted_7,
      Gen.SolverGlue.shifted_8] <;>
    ring

/-- the recorded matrix has one entry per position of the 3×3 pattern -/
theorem glue_shifted_keys (a00 a01 a02 a10 a11 a12 a20 a21 a22 b00 b01 b02 b10 b11 b12 b20 b21 b22 m ell : ℝ) :
    (Gen.SolverGlue.shifted a00 a01 a02 a10 a11 a12 a20 a21 a22 b00 b01 b02 b10 b11 b12 b20 b21 b22 m ell).map (·.1)
      = [(0, 0), (0, 1), (0, 2), (1, 0), (1, 1), (1, 2), (2, 0), (2, 1), (2, 2)] :=
  rfl

/-- **backward-Euler matrix of `diffusion`** = the model's `B + tA` with `t = m·ℓ²` -/
theorem glue_heat (a00 a01 a02 a10 a11 a12 a20 a21 a22 b00 b01 b02 b10 b11 b12 b20 b21 b22 m ell : ℝ) :
    ∀ e ∈ Gen.SolverGlue.heatMat a00 a01 a02 a10 a11 a12 a20 a21 a22 b00 b01 b02 b10 b11 b12 b20 b21 b22 m ell,
      Coo.entry (Heat.heatMat (Heat.time m ell) (M3 a00 a01 a02 a10 a11 a12 a20 a21 a22) (M3 b00 b01 b02 b10 b11 b12 b20 b21 b22)) e.1.1 e.1.2 = e.2 := by
  intro e he
  simp only [Gen.SolverGlue.heatMat, List.mem_cons, List.not_mem_nil, or_false] at he
  rcases he with rfl | rfl | rfl | rfl | rfl | rfl | rfl | rfl | rfl <;>
  · simp only [Coo.entry_heatMat, Heat.time, M3, Coo.entry_cons, Coo.entry_nil, Nat.reduceEqDiff, and_self, and_true, and_false,
      ↓reduceIte, add_zero, zero_add, Gen.SolverGlue.heatMat_0, Gen.SolverGlue.heatMat_1, Gen.SolverGlue.heatMat_2,
      Gen.SolverGlue.heatMat_3, Gen.SolverGlue.heatMat_4, Gen.SolverGlue.heatMat_5, Gen.SolverGlue.heatMat_6,
      Gen.SolverGlue.heatMat_7, Gen.SolverGlue.heatMat_8] <;>
    ring

theorem glue_heat_keys (a00 a01 a02 a10 a11 a12 a20 a21 a22 b00 b01 b02 b10 b11 b12 b20 b21 b22 m ell : ℝ) :
    (Gen.SolverGlue.heatMat a00 a01 a02 a10 a11 a12 a20 a21 a22 b00 b01 b02 b10 b11 b12 b20 b21 b22 m ell).map (·.1)
      = [(0, 0), (0, 1), (0, 2), (1, 0), (1, 1), (1, 2), (2, 0), (2, 1), (2, 2)] :=
  rfl

/-- **right-hand side of `diffusion`** = indicator of the seed vertices `[2, 0]` -/
theorem glue_heat_rhs (a00 a01 a02 a10 a11 a12 a20 a21 a22 b00 b01 b02 b10 b11 b12 b20 b21 b22 m ell : ℝ) :
    Heat.seedVec 3 [2, 0] = Gen.SolverGlue.heatRhs a00 a01 a02 a10 a11 a12 a20 a21 a22 b00 b01 b02 b10 b11 b12 b20 b21 b22 m ell := by
  simp only [Gen.SolverGlue.heatRhs, Gen.SolverGlue.heatRhs_0, Gen.SolverGlue.heatRhs_1, Gen.SolverGlue.heatRhs_2,
    Heat.seedVec]
  norm_num [List.range, List.range.loop]

/-- every recorded fact about the external calls holds -/
theorem glue_calls : ∀ f ∈ Gen.SolverGlue.callFacts, f.2 = true := by decide

/-- and the list of facts is the expected one (nothing silently dropped) -/
theorem glue_calls_names : Gen.SolverGlue.callFacts.map (·.1) =
    ["eigsh.A is self.stiffness", "eigsh.k is k", "eigsh.M is self.mass", "eigsh positional args = 3", "eigsh keywords = OPinv, sigma",
     "OPinv.matvec is lu.solve", "OPinv.shape = shape of A", "eigs returns eigsh's output unchanged",
     "diffusion: Solver(geometry, lump=True, aniso=aniso)", "diffusion returns the solver output unchanged", "diffusion: matrix format csc"] :=
  rfl

/-- **End-to-end statement about the traced `diffusion`** (no hand-written model in between): if the vector `u` handed back by the sparse
    solver solves the system the code handed to it, and the stiffness matrix annihilates constants from the left (zero column sums, C01),
    then the total heat `Σ_i Σ_j B_ij u_j` equals the number of seed vertices (2) — whatever the time `m·ℓ²`. -/
theorem diffusion_traced_conservation
    (a00 a01 a02 a10 a11 a12 a20 a21 a22 b00 b01 b02 b10 b11 b12 b20 b21 b22 m ell u0 u1 u2 : ℝ)
    (hA : a00 + a10 + a20 = 0 ∧ a01 + a11 + a21 = 0 ∧ a02 + a12 + a22 = 0)
    (h0 : Gen.SolverGlue.heatMat_0 a00 a01 a02 a10 a11 a12 a20 a21 a22 b00 b01 b02 b10 b11 b12 b20 b21 b22 m ell * u0
        + Gen.SolverGlue.heatMat_1 a00 a01 a02 a10 a11 a12 a20 a21 a22 b00 b01 b02 b10 b11 b12 b20 b21 b22 m ell * u1
        + Gen.SolverGlue.heatMat_2 a00 a01 a02 a10 a11 a12 a20 a21 a22 b00 b01 b02 b10 b11 b12 b20 b21 b22 m ell * u2
        = Gen.SolverGlue.heatRhs_0 a00 a01 a02 a10 a11 a12 a20 a21 a22 b00 b01 b02 b10 b11 b12 b20 b21 b22 m ell)
    (h1 : Gen.SolverGlue.heatMat_3 a00 a01 a02 a10 a11 a12 a20 a21 a22 b00 b01 b02 b10 b11 b12 b20 b21 b22 m ell * u0
        + Gen.SolverGlue.heatMat_4 a00 a01 a02 a10 a11 a12 a20 a21 a22 b00 b01 b02 b10 b11 b12 b20 b21 b22 m ell * u1
        + Gen.SolverGlue.heatMat_5 a00 a01 a02 a10 a11 a12 a20 a21 a22 b00 b01 b02 b10 b11 b12 b20 b21 b22 m ell * u2
        = Gen.SolverGlue.heatRhs_1 a00 a01 a02 a10 a11 a12 a20 a21 a22 b00 b01 b02 b10 b11 b12 b20 b21 b22 m ell)
    (h2 : Gen.SolverGlue.heatMat_6 a00 a01 a02 a10 a11 a12 a20 a21 a22 b00 b01 b02 b10 b11 b12 b20 b21 b22 m ell * u0
        + Gen.SolverGlue.heatMat_7 a00 a01 a02 a10 a11 a12 a20 a21 a22 b00 b01 b02 b10 b11 b12 b20 b21 b22 m ell * u1
        + Gen.SolverGlue.heatMat_8 a00 a01 a02 a10 a11 a12 a20 a21 a22 b00 b01 b02 b10 b11 b12 b20 b21 b22 m ell * u2
        = Gen.SolverGlue.heatRhs_2 a00 a01 a02 a10 a11 a12 a20 a21 a22 b00 b01 b02 b10 b11 b12 b20 b21 b22 m ell) :
    (b00 + b10 + b20) * u0 + (b01 + b11 + b21) * u1 + (b02 + b12 + b22) * u2 = 2 := by
  obtain ⟨c0, c1, c2⟩ := hA
  simp only [Gen.SolverGlue.heatMat_0, Gen.SolverGlue.heatMat_1, Gen.SolverGlue.heatMat_2, Gen.SolverGlue.heatMat_3,
    Gen.SolverGlue.heatMat_4, Gen.SolverGlue.heatMat_5, Gen.SolverGlue.heatMat_6, Gen.SolverGlue.heatMat_7,
    Gen.SolverGlue.heatMat_8, Gen.SolverGlue.heatRhs_0, Gen.SolverGlue.heatRhs_1, Gen.SolverGlue.heatRhs_2] at h0 h1 h2
  -- add the three equations; the stiffness part is `m·ℓ²·Σ_j (column sum j)·u_j = 0`
  linear_combination h0 + h1 + h2 - m * (ell * ell) * (u0 * c0 + u1 * c1 + u2 * c2)

/-- **End-to-end statement about the traced `eigs`**: for the matrix the code factorises, every generalised eigenpair `A x = λ B x`
    satisfies `(factorised) x = (λ − σ) B x` with the recorded `σ = −1/100`; since `λ ≥ 0 > σ` (C01/C02) the factor `λ − σ` is positive, so
    ARPACK's largest `1/(λ − σ)` are the smallest `λ` (Props/C03 `shift_order`). -/
theorem eigs_traced_shift
    (a00 a01 a02 a10 a11 a12 a20 a21 a22 b00 b01 b02 b10 b11 b12 b20 b21 b22 m ell lam x0 x1 x2 : ℝ)
    (h0 : a00 * x0 + a01 * x1 + a02 * x2 = lam * (b00 * x0 + b01 * x1 + b02 * x2))
    (h1 : a10 * x0 + a11 * x1 + a12 * x2 = lam * (b10 * x0 + b11 * x1 + b12 * x2))
    (h2 : a20 * x0 + a21 * x1 + a22 * x2 = lam * (b20 * x0 + b21 * x1 + b22 * x2)) :
    let S := fun k => [Gen.SolverGlue.shifted_0, Gen.SolverGlue.shifted_1, Gen.SolverGlue.shifted_2, Gen.SolverGlue.shifted_3, Gen.SolverGlue.shifted_4,
      Gen.SolverGlue.shifted_5, Gen.SolverGlue.shifted_6, Gen.SolverGlue.shifted_7, Gen.SolverGlue.shifted_8].getD k (fun _ _ _ _ _ _ _ _ _ _ _ _ _ _ _ _ _ _ _ _ => 0)
        a00 a01 a02 a10 a11 a12 a20 a21 a22 b00 b01 b02 b10 b11 b12 b20 b21 b22 m ell
    let sg := Gen.SolverGlue.sigma a00 a01 a02 a10 a11 a12 a20 a21 a22 b00 b01 b02 b10 b11 b12 b20 b21 b22 m ell
    S 0 * x0 + S 1 * x1 + S 2 * x2 = (lam - sg) * (b00 * x0 + b01 * x1 + b02 * x2) ∧
    S 3 * x0 + S 4 * x1 + S 5 * x2 = (lam - sg) * (b10 * x0 + b11 * x1 + b12 * x2) ∧
    S 6 * x0 + S 7 * x1 + S 8 * x2 = (lam - sg) * (b20 * x0 + b21 * x1 + b22 * x2) := by
  simp only [List.getD_cons_zero, List.getD_cons_succ, Gen.SolverGlue.shifted_0, Gen.SolverGlue.shifted_1,
    Gen.SolverGlue.shifted_2, Gen.SolverGlue.shifted_3, Gen.SolverGlue.shifted_4, Gen.SolverGlue.shifted_5,
    Gen.SolverGlue.shifted_6, Gen.SolverGlue.shifted_7, Gen.SolverGlue.shifted_8, Gen.SolverGlue.sigma]
  exact ⟨by linear_combination h0, by linear_combination h1, by linear_combination h2⟩

/-! ### census: how many data-dependent decisions the tracer recorded (a branch added to the source changes the number) -/
theorem census_SolverGlue_pcCount : Gen.SolverGlue.pcCount = 0 := rfl

end LapyVerif.Bridge
