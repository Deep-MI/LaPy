import LapyVerif.Lemmas.BridgeTac
import LapyVerif.Model.Fem
import LapyVerif.Generated.FemTria
import LapyVerif.Generated.FemTriaMass
import LapyVerif.Generated.FemTriaAniso
import LapyVerif.Generated.FemTet
/-
  Bridge: what `/repo`'s FEM kernels compute on one generic element (traced into `Generated/`)
  is the model's output, under the traced path condition.  A change of a weight, sign, operand or index in
  `lapy/solver.py` changes the generated term and one of these proofs stops closing.
  (In all bridge files: every `Gen.M.*` definition takes the full symbol list of its traced module, so a statement also binds the symbols that
  only pass through as arguments.)
-/
set_option linter.unusedTactic false
-- the closing `ring` runs only on entries that the traced kernel computes in another, algebraically equal form
set_option linter.unreachableTactic false
namespace LapyVerif.Bridge

theorem fem_tria_nd (v0 v1 v2 : V3 ℝ) (h : Gen.FemTria.pc v0 v1 v2) : ¬ (Fem.triVol v0 v1 v2 < epsK) := by
  rw [epsK_real]
  simpa [Gen.FemTria.pc, Fem.triVol, Fem.triCr, V3.normSq, V3.dot] using h

theorem fem_tria_A (v0 v1 v2 : V3 ℝ) (h : Gen.FemTria.pc v0 v1 v2) :
    Fem.stiffTria (vtx3 v0 v1 v2) [(0, 1, 2)] = Gen.FemTria.A v0 v1 v2 := by
  have h' := fem_tria_nd v0 v1 v2 h
  simp only [Fem.stiffTria, Fem.triVols, List.map, vtx3_0, vtx3_1, vtx3_2, Fem.clampLt, if_neg h', flatten_map_zip_one,
    Fem.triBlockA, Fem.triBlock, Gen.FemTria.A]
  v3_flat [Fem.triA12, Fem.triA23, Fem.triA31, Fem.triVol, Fem.triCr,
      Gen.FemTria.A_0, Gen.FemTria.A_1, Gen.FemTria.A_2, Gen.FemTria.A_3, Gen.FemTria.A_4, Gen.FemTria.A_5,
      Gen.FemTria.A_6, Gen.FemTria.A_7, Gen.FemTria.A_8] <;>
    coo_entries <;> ring

/-- the stiffness matrix does not depend on `lump` -/
theorem fem_tria_AL (v0 v1 v2 : V3 ℝ) : Gen.FemTria.AL v0 v1 v2 = Gen.FemTria.A v0 v1 v2 :=
  rfl

theorem fem_tria_B (v0 v1 v2 : V3 ℝ) (h : Gen.FemTria.pc v0 v1 v2) :
    Fem.massTria false (vtx3 v0 v1 v2) [(0, 1, 2)] = Gen.FemTria.B v0 v1 v2 := by
  have h' := fem_tria_nd v0 v1 v2 h
  simp only [Fem.massTria, Fem.triVols, List.map, vtx3_0, vtx3_1, vtx3_2, Fem.clampLt, if_neg h', flatten_map_zip_one,
    Fem.triBlock, Gen.FemTria.B, Bool.false_eq_true, if_false]
  v3_flat [Fem.triVol, Fem.triCr,
      Gen.FemTria.B_0, Gen.FemTria.B_1, Gen.FemTria.B_2, Gen.FemTria.B_3, Gen.FemTria.B_4, Gen.FemTria.B_5,
      Gen.FemTria.B_6, Gen.FemTria.B_7, Gen.FemTria.B_8] <;>
    coo_entries <;> ring

theorem fem_tria_BL (v0 v1 v2 : V3 ℝ) (h : Gen.FemTria.pc v0 v1 v2) :
    Fem.massTria true (vtx3 v0 v1 v2) [(0, 1, 2)] = Gen.FemTria.BL v0 v1 v2 := by
  have h' := fem_tria_nd v0 v1 v2 h
  simp only [Fem.massTria, Fem.triVols, List.map, vtx3_0, vtx3_1, vtx3_2, Fem.clampLt, if_neg h', flatten_map_zip_one,
    Fem.triBlockL, Gen.FemTria.BL, if_true]
  v3_flat [Fem.triVol, Fem.triCr, Gen.FemTria.BL_0, Gen.FemTria.BL_1, Gen.FemTria.BL_2] <;>
    coo_entries <;> ring

theorem fem_mass_nd (v0 v1 v2 : V3 ℝ) (h : Gen.FemTriaMass.pc v0 v1 v2) :
    ¬ ((((1 : Nat) : ℝ) / ((2 : Nat) : ℝ)) * sqrt (V3.normSq (Fem.triCr v0 v1 v2)) = 0) := by
  simpa [Gen.FemTriaMass.pc, Fem.triCr, V3.normSq, V3.dot] using h

theorem fem_mass_B (v0 v1 v2 : V3 ℝ) (h : Gen.FemTriaMass.pc v0 v1 v2) :
    Fem.massTriaStandalone false (vtx3 v0 v1 v2) [(0, 1, 2)] = Gen.FemTriaMass.B v0 v1 v2 := by
  have h' := fem_mass_nd v0 v1 v2 h
  simp only [Fem.massTriaStandalone, Fem.triVolsMass, List.map, vtx3_0, vtx3_1, vtx3_2, beq_iff_eq, if_neg h',
    flatten_map_zip_one, Fem.triBlock, Gen.FemTriaMass.B, Bool.false_eq_true, if_false]
  v3_flat [Fem.triCr, Gen.FemTriaMass.B_0, Gen.FemTriaMass.B_1, Gen.FemTriaMass.B_2, Gen.FemTriaMass.B_3,
      Gen.FemTriaMass.B_4, Gen.FemTriaMass.B_5, Gen.FemTriaMass.B_6, Gen.FemTriaMass.B_7, Gen.FemTriaMass.B_8] <;>
    coo_entries <;> ring

theorem fem_mass_BL (v0 v1 v2 : V3 ℝ) (h : Gen.FemTriaMass.pc v0 v1 v2) :
    Fem.massTriaStandalone true (vtx3 v0 v1 v2) [(0, 1, 2)] = Gen.FemTriaMass.BL v0 v1 v2 := by
  have h' := fem_mass_nd v0 v1 v2 h
  simp only [Fem.massTriaStandalone, Fem.triVolsMass, List.map, vtx3_0, vtx3_1, vtx3_2, beq_iff_eq, if_neg h',
    flatten_map_zip_one, Fem.triBlockL, Gen.FemTriaMass.BL, if_true]
  v3_flat [Fem.triCr, Gen.FemTriaMass.BL_0, Gen.FemTriaMass.BL_1, Gen.FemTriaMass.BL_2] <;>
    coo_entries <;> ring

theorem fem_aniso_nd (v0 v1 v2 u1 u2 : V3 ℝ) (d0 d1 : ℝ) (h : Gen.FemTriaAniso.pc v0 v1 v2 u1 u2 d0 d1) :
    ¬ (Fem.triVol v0 v1 v2 < epsK) := by
  rw [epsK_real]
  simpa [Gen.FemTriaAniso.pc, Fem.triVol, Fem.triCr, V3.normSq, V3.dot] using h

theorem fem_aniso_A (v0 v1 v2 u1 u2 : V3 ℝ) (d0 d1 : ℝ) (h : Gen.FemTriaAniso.pc v0 v1 v2 u1 u2 d0 d1) :
    Fem.stiffTriaAniso (vtx3 v0 v1 v2) [(0, 1, 2)] [(u1, u2, d0, d1)] = Gen.FemTriaAniso.A v0 v1 v2 u1 u2 d0 d1 := by
  have h' := fem_aniso_nd v0 v1 v2 u1 u2 d0 d1 h
  simp only [Fem.stiffTriaAniso, Fem.triVols, List.map, vtx3_0, vtx3_1, vtx3_2, Fem.clampLt, if_neg h', List.zip_cons_cons,
    List.zip_nil_right, List.flatten_cons, List.flatten_nil, List.append_nil, Fem.triBlockA, Fem.triBlock,
    Gen.FemTriaAniso.A]
  v3_flat [Fem.anisoDot, Fem.triVol, Fem.triCr, Gen.FemTriaAniso.A_0, Gen.FemTriaAniso.A_1, Gen.FemTriaAniso.A_2,
      Gen.FemTriaAniso.A_3, Gen.FemTriaAniso.A_4, Gen.FemTriaAniso.A_5, Gen.FemTriaAniso.A_6, Gen.FemTriaAniso.A_7,
      Gen.FemTriaAniso.A_8] <;>
    coo_entries <;> ring

theorem fem_aniso_B (v0 v1 v2 u1 u2 : V3 ℝ) (d0 d1 : ℝ) (h : Gen.FemTriaAniso.pc v0 v1 v2 u1 u2 d0 d1) :
    Fem.massTria false (vtx3 v0 v1 v2) [(0, 1, 2)] = Gen.FemTriaAniso.B v0 v1 v2 u1 u2 d0 d1 := by
  have h' := fem_aniso_nd v0 v1 v2 u1 u2 d0 d1 h
  simp only [Fem.massTria, Fem.triVols, List.map, vtx3_0, vtx3_1, vtx3_2, Fem.clampLt, if_neg h', flatten_map_zip_one,
    Fem.triBlock, Gen.FemTriaAniso.B, Bool.false_eq_true, if_false]
  v3_flat [Fem.triVol, Fem.triCr, Gen.FemTriaAniso.B_0, Gen.FemTriaAniso.B_1, Gen.FemTriaAniso.B_2,
      Gen.FemTriaAniso.B_3, Gen.FemTriaAniso.B_4, Gen.FemTriaAniso.B_5, Gen.FemTriaAniso.B_6, Gen.FemTriaAniso.B_7,
      Gen.FemTriaAniso.B_8] <;>
    coo_entries <;> ring

theorem fem_tet_nd (v0 v1 v2 v3 : V3 ℝ) (h : Gen.FemTet.pc v0 v1 v2 v3) : ¬ (Fem.tetVol v0 v1 v2 v3 = 0) := by
  simpa [Gen.FemTet.pc, Fem.tetVol, V3.dot] using h

theorem fem_tet_A (v0 v1 v2 v3 : V3 ℝ) (h : Gen.FemTet.pc v0 v1 v2 v3) :
    Fem.stiffTet (vtx4 v0 v1 v2 v3) [(0, 1, 2, 3)] = Gen.FemTet.A v0 v1 v2 v3 := by
  have h' := fem_tet_nd v0 v1 v2 v3 h
  simp only [Fem.stiffTet, Fem.tetVols, List.map, vtx4_0, vtx4_1, vtx4_2, vtx4_3, beq_iff_eq, if_neg h',
    flatten_map_zip_one, Fem.tetBlock, Fem.tetOff, Gen.FemTet.A]
  v3_flat [Fem.tetVol, Gen.FemTet.A_0, Gen.FemTet.A_1, Gen.FemTet.A_2, Gen.FemTet.A_3, Gen.FemTet.A_4, Gen.FemTet.A_5,
      Gen.FemTet.A_6, Gen.FemTet.A_7, Gen.FemTet.A_8, Gen.FemTet.A_9, Gen.FemTet.A_10, Gen.FemTet.A_11, Gen.FemTet.A_12,
      Gen.FemTet.A_13, Gen.FemTet.A_14, Gen.FemTet.A_15] <;>
    coo_entries <;> ring

theorem fem_tet_B (v0 v1 v2 v3 : V3 ℝ) (h : Gen.FemTet.pc v0 v1 v2 v3) :
    Fem.massTet false (vtx4 v0 v1 v2 v3) [(0, 1, 2, 3)] = Gen.FemTet.B v0 v1 v2 v3 := by
  have h' := fem_tet_nd v0 v1 v2 v3 h
  simp only [Fem.massTet, Fem.tetVols, List.map, vtx4_0, vtx4_1, vtx4_2, vtx4_3, beq_iff_eq, if_neg h',
    flatten_map_zip_one, Fem.tetBlock, Gen.FemTet.B, Bool.false_eq_true, if_false]
  v3_flat [Fem.tetVol, Gen.FemTet.B_0, Gen.FemTet.B_1, Gen.FemTet.B_2, Gen.FemTet.B_3, Gen.FemTet.B_4, Gen.FemTet.B_5,
      Gen.FemTet.B_6, Gen.FemTet.B_7, Gen.FemTet.B_8, Gen.FemTet.B_9, Gen.FemTet.B_10, Gen.FemTet.B_11, Gen.FemTet.B_12,
      Gen.FemTet.B_13, Gen.FemTet.B_14, Gen.FemTet.B_15] <;>
    coo_entries <;> ring

theorem fem_tet_BL (v0 v1 v2 v3 : V3 ℝ) (h : Gen.FemTet.pc v0 v1 v2 v3) :
    Fem.massTet true (vtx4 v0 v1 v2 v3) [(0, 1, 2, 3)] = Gen.FemTet.BL v0 v1 v2 v3 := by
  have h' := fem_tet_nd v0 v1 v2 v3 h
  simp only [Fem.massTet, Fem.tetVols, List.map, vtx4_0, vtx4_1, vtx4_2, vtx4_3, beq_iff_eq, if_neg h',
    flatten_map_zip_one, Fem.tetBlockL, Gen.FemTet.BL, if_true]
  v3_flat [Fem.tetVol, Gen.FemTet.BL_0, Gen.FemTet.BL_1, Gen.FemTet.BL_2, Gen.FemTet.BL_3] <;>
    coo_entries <;> ring

/-! ### census: how many data-dependent decisions the tracer recorded (a branch added to the source changes the number) -/
theorem census_FemTria_pcCount : Gen.FemTria.pcCount = 1 := rfl
theorem census_FemTriaMass_pcCount : Gen.FemTriaMass.pcCount = 1 := rfl
theorem census_FemTriaAniso_pcCount : Gen.FemTriaAniso.pcCount = 1 := rfl
theorem census_FemTet_pcCount : Gen.FemTet.pcCount = 1 := rfl

end LapyVerif.Bridge
