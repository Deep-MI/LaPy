import LapyVerif.Model.FsSurf
/-
  Helper lemmas for C14b (FreeSurfer binary surfaces): 32-bit words, `fromfile`, `readline`, `split("=")`, `strip()`,
  `split()` on byte lists; then the footer: the admissibility predicates of its values (`okByte`, `GoodVal`, `GoodTok`,
  `GoodInfoVals`: they are hypotheses of the parsing lemmas, so they stand here and not in Props/C14b) and its round trip
  `readVolInfo_writeInfo`.
  The model's splitter is core's `List.splitOnP` (`splitAt_eq_splitOnP`, `wsplit_eq`), as is the text formats'
  (`Formats.splitBy_eq_splitOnP`), so both use the core lemmas.  The stripping / token lemmas (`strip_*`, `wsplit_*`, `mem_joinSp`,
  `dropWhile_head`) mirror on bytes what `Lemmas/FormatLemmas.lean` proves on characters (`trimL_*`, `words_*`, `mem_intercalate`).
-/
namespace LapyVerif
namespace FsSurf

theorem toNat_toUInt8 (n : Nat) : n.toUInt8.toNat = n % 256 := by
  simp [Nat.toUInt8]

theorem dec32_be32 (n : Nat) (h : n < 4294967296) :
    dec32 (n / 16777216 % 256).toUInt8 (n / 65536 % 256).toUInt8 (n / 256 % 256).toUInt8 (n % 256).toUInt8 = n := by
  simp only [dec32, toNat_toUInt8, Nat.mod_mod]
  -- successive division by 256: `omega` then sees three divisions of one kind instead of six unrelated ones
  rw [show n / 16777216 = n / 256 / 256 / 256 by simp [Nat.div_div_eq_div_mul],
    show n / 65536 = n / 256 / 256 by simp [Nat.div_div_eq_div_mul]]
  generalize ha : n / 256 = a
  generalize hb : a / 256 = b
  omega

theorem dec32_lt (a b c d : UInt8) : dec32 a b c d < 4294967296 := by
  have := a.toNat_lt; have := b.toNat_lt; have := c.toNat_lt; have := d.toNat_lt
  unfold dec32; omega

theorem toI32_patI32 (z : Int) (h1 : -2147483648 ≤ z) (h2 : z < 2147483648) : toI32 (patI32 z) = z := by
  unfold toI32 patI32
  split <;> omega

theorem patI32_lt (z : Int) : patI32 z < 4294967296 := by
  unfold patI32; omega

theorem patI32_natCast (n : Nat) (h : n < 4294967296) : patI32 (n : Int) = n := by
  unfold patI32; omega

theorem toI32_natCast (n : Nat) (h : n < 2147483648) : toI32 n = (n : Int) := by
  unfold toI32; rw [if_pos h]

theorem length_be32 (n : Nat) : (be32 n).length = 4 := rfl

theorem take_be32_add (n i : Nat) (r : Bytes) : (be32 n ++ r).take (4 + i) = be32 n ++ r.take i :=
  List.take_length_add_append (l₁ := be32 n) i

theorem items_be32 (n : Nat) (h : n < 4294967296) (r : Bytes) : items (be32 n ++ r) = n :: items r := by
  simp only [be32, List.cons_append, List.nil_append, items, dec32_be32 n h]

theorem takeItems_be32 (k n : Nat) (h : n < 4294967296) (r : Bytes) :
    takeItems (k + 1) (be32 n ++ r) = (n :: (takeItems k r).1, (takeItems k r).2) := by
  simp only [be32, List.cons_append, List.nil_append, takeItems, dec32_be32 n h]

theorem takeItems_words (l : List Nat) (hl : ∀ n ∈ l, n < 4294967296) (rest : Bytes) :
    takeItems l.length (l.flatMap be32 ++ rest) = (l, rest) := by
  induction l with
  | nil => rfl
  | cons n l ih =>
    rw [List.length_cons, List.flatMap_cons, List.append_assoc, takeItems_be32 _ _ (hl n List.mem_cons_self),
      ih fun m hm => hl m (List.mem_cons_of_mem _ hm)]

-- the count is a free `c` with `hc`: the reader calls `fromfile 1`, `fromfile 2`, literals that are not syntactically the cast of a length
theorem fromfile_words (l : List Nat) (hl : ∀ n ∈ l, n < 4294967296) (rest : Bytes) (c : Int)
    (hc : c = (l.length : Int)) : fromfile c (l.flatMap be32 ++ rest) = (l, rest) := by
  unfold fromfile
  rw [if_neg (by omega), hc, Int.toNat_natCast, takeItems_words l hl rest]

theorem fromfile_one (n : Nat) (h : n < 4294967296) (r : Bytes) : fromfile 1 (be32 n ++ r) = ([n], r) := by
  have := fromfile_words [n] (by simpa using h) r 1 rfl
  simpa using this

/-- a read returns at most the complete 4-byte groups that are there, at most as many as asked for, and what it leaves
    was not read -/
theorem length_takeItems (k : Nat) (bs : Bytes) :
    (takeItems k bs).1.length * 4 + (takeItems k bs).2.length ≤ bs.length ∧ (takeItems k bs).1.length ≤ k := by
  induction k generalizing bs with
  | zero => simp [takeItems]
  | succ k ih =>
    match bs with
    | a :: b :: c :: d :: r =>
      have := ih r
      simp only [takeItems, List.length_cons]
      omega
    | [] | [_] | [_, _] | [_, _, _] => simp [takeItems]

theorem takeItems_short (k : Nat) (bs : Bytes) (h : bs.length < 4 * k) : (takeItems k bs).1.length < k := by
  have := (length_takeItems k bs).1
  omega

theorem takeItems_one_short (bs : Bytes) (h : bs.length < 4) : takeItems 1 bs = ([], []) := by
  match bs with
  | [] | [_] | [_, _] | [_, _, _] => rfl
  | _ :: _ :: _ :: _ :: _ => simp at h; omega

theorem fromfile_one_short (bs : Bytes) (h : bs.length < 4) : fromfile 1 bs = ([], []) :=
  takeItems_one_short bs h

theorem readline_append (l t : Bytes) (h : ∀ b ∈ l, b ≠ 10) :
    readline (l ++ t) = (l ++ (readline t).1, (readline t).2) := by
  induction l with
  | nil => rfl
  | cons b l ih =>
    have hb : (b == 10) = false := by simpa using h b List.mem_cons_self
    simp only [List.cons_append, readline, hb, Bool.false_eq_true, if_false, ih fun x hx => h x (List.mem_cons_of_mem _ hx)]

theorem readline_line (l rest : Bytes) (h : ∀ b ∈ l, b ≠ 10) : readline (l ++ 10 :: rest) = (l ++ [10], rest) :=
  readline_append l _ h

theorem readline_noNL (l : Bytes) (h : ∀ b ∈ l, b ≠ 10) : readline l = (l, []) := by
  have := readline_append l [] h
  rwa [List.append_nil, show readline [] = ([], []) from rfl, List.append_nil] at this

theorem dropWhile_head {α : Type} (p : α → Bool) (l : List α) (h : l.head?.all (fun x => !p x) = true) :
    l.dropWhile p = l := by
  cases l with
  | nil => rfl
  | cons x l =>
    simp only [List.head?_cons, Option.all_some, Bool.not_eq_true'] at h
    simp [h]

theorem rstripNL_noNL (l : Bytes) (h : ∀ b ∈ l, b ≠ 10) : rstripNL l = l := by
  unfold rstripNL
  rw [dropWhile_head, List.reverse_reverse]
  rw [List.head?_reverse]
  cases hl : l.getLast? with
  | none => rfl
  | some x =>
    have := h x (List.mem_of_getLast? hl)
    simpa using this

theorem rstripNL_line (l : Bytes) (h : ∀ b ∈ l, b ≠ 10) : rstripNL (l ++ [10]) = l := by
  have := rstripNL_noNL l h
  unfold rstripNL at this ⊢
  rw [List.reverse_append, List.reverse_singleton, List.singleton_append, List.dropWhile_cons]
  simpa using this

/-- the model's splitter is core's `List.splitOnP` (lemmas `splitOnP_eq_singleton`, `splitOnP_append_cons` …) -/
theorem splitAt_eq_splitOnP (p : UInt8 → Bool) (cur l : Bytes) : splitAt p cur l = List.splitOnPPrepend p l cur := by
  induction l generalizing cur with
  | nil => rfl
  | cons b l ih => by_cases h : p b <;> simp [splitAt, List.splitOnPPrepend, h, ih]

theorem splitAt_eq (k v : Bytes) (hk : ∀ b ∈ k, b ≠ 61) (hv : ∀ b ∈ v, b ≠ 61) :
    splitAt (· == 61) [] (k ++ 61 :: v) = [k, v] := by
  rw [splitAt_eq_splitOnP, List.splitOnPPrepend_nil_right,
    List.splitOnP_append_cons_of_forall_mem (fun b hb => by simpa using hk b hb) 61 (by decide),
    List.splitOnP_eq_singleton fun b hb => by simpa using hv b hb]

theorem strip_left (a l : Bytes) (ha : ∀ x ∈ a, isSpace x = true) : strip (a ++ l) = strip l := by
  unfold strip
  rw [List.dropWhile_append_of_pos ha]

theorem strip_right (l b : Bytes) (hb : ∀ x ∈ b, isSpace x = true) : strip (l ++ b) = strip l := by
  unfold strip
  rw [List.dropWhile_append]
  split
  · rename_i h
    have h' : l.dropWhile isSpace = [] := List.isEmpty_iff.mp h
    have hb' : b.dropWhile isSpace = [] := by
      simpa using List.dropWhile_append_of_pos (l₂ := []) hb
    rw [h', hb']
  · rw [List.reverse_append, List.dropWhile_append_of_pos fun x hx => hb x (List.mem_reverse.mp hx)]

/-- `(" " + v + "\n").strip()` -/
theorem strip_pad (v : Bytes) (hv : strip v = v) : strip (32 :: v ++ [10]) = v := by
  have h1 := strip_left [32] (v ++ [10]) (by decide)
  have h2 := strip_right v [10] (by decide)
  simp only [List.singleton_append] at h1
  rw [List.cons_append, h1, h2, hv]

theorem wsplit_eq (l : Bytes) : wsplit l = (l.splitOnP isSpace).filter (· ≠ []) :=
  congrArg _ (splitAt_eq_splitOnP isSpace [] l)

theorem wsplit_append (a b : Bytes) (c : UInt8) (hc : isSpace c = true) : wsplit (a ++ c :: b) = wsplit a ++ wsplit b := by
  rw [wsplit_eq, wsplit_eq, wsplit_eq, List.splitOnP_append_cons _ _ hc, List.filter_append]

theorem wsplit_nil : wsplit [] = [] := by decide

theorem wsplit_tok (t : Bytes) (hne : t ≠ []) (h : ∀ b ∈ t, isSpace b = false) : wsplit t = [t] := by
  rw [wsplit_eq, List.splitOnP_eq_singleton h]
  simp [hne]

theorem joinSp_cons_cons (t u : Bytes) (toks : List Bytes) : joinSp (t :: u :: toks) = t ++ 32 :: joinSp (u :: toks) := rfl

theorem wsplit_joinSp (toks : List Bytes) (h : ∀ t ∈ toks, t ≠ [] ∧ ∀ b ∈ t, isSpace b = false) :
    wsplit (joinSp toks) = toks := by
  induction toks with
  | nil => exact wsplit_nil
  | cons t toks ih =>
    have ht := h t List.mem_cons_self
    cases toks with
    | nil => simpa [joinSp] using wsplit_tok t ht.1 ht.2
    | cons u toks =>
      rw [joinSp_cons_cons, wsplit_append _ _ 32 (by decide), wsplit_tok t ht.1 ht.2, ih fun x hx => h x (List.mem_cons_of_mem _ hx)]
      rfl

/-- `(" " + " ".join(toks) + "\n").split()` -/
theorem wsplit_pad (toks : List Bytes) (h : ∀ t ∈ toks, t ≠ [] ∧ ∀ b ∈ t, isSpace b = false) :
    wsplit (32 :: joinSp toks ++ [10]) = toks := by
  have e : (32 :: joinSp toks ++ [10] : Bytes) = [] ++ 32 :: (joinSp toks ++ 10 :: []) := by simp
  rw [e, wsplit_append _ _ 32 (by decide), wsplit_append _ _ 10 (by decide), wsplit_nil, wsplit_joinSp toks h]
  simp

theorem mem_joinSp (toks : List Bytes) (b : UInt8) (hb : b ∈ joinSp toks) : b = 32 ∨ ∃ t ∈ toks, b ∈ t := by
  induction toks with
  | nil => simp [joinSp] at hb
  | cons t toks ih =>
    cases toks with
    | nil => exact Or.inr ⟨t, by simp, by simpa [joinSp] using hb⟩
    | cons u toks =>
      rw [joinSp_cons_cons, List.mem_append, List.mem_cons] at hb
      rcases hb with hb | rfl | hb
      · exact Or.inr ⟨t, by simp, hb⟩
      · exact Or.inl rfl
      · rcases ih hb with h | ⟨x, hx, h⟩
        · exact Or.inl h
        · exact Or.inr ⟨x, List.mem_cons_of_mem _ hx, h⟩

/-- a byte allowed inside a footer line: no line break, no `=`, ASCII -/
def okByte (b : UInt8) : Prop := b ≠ 10 ∧ b ≠ 61 ∧ b < 128

instance (b : UInt8) : Decidable (okByte b) := by unfold okByte; infer_instance

/-- a value of `valid` / `filename`: stripped, one line, no `=`, ASCII (may be empty, may contain blanks) -/
def GoodVal (v : Bytes) : Prop := strip v = v ∧ ∀ b ∈ v, okByte b

/-- a number token: non-empty, no white space, no `=`, ASCII (`Formats.GoodTok` of the text formats asks for the first two only) -/
def GoodTok (t : Bytes) : Prop := t ≠ [] ∧ ∀ b ∈ t, isSpace b = false ∧ b ≠ 61 ∧ b < 128

instance (v : Bytes) : Decidable (GoodVal v) := by unfold GoodVal; infer_instance
instance (t : Bytes) : Decidable (GoodTok t) := by unfold GoodTok; infer_instance

theorem ascii_eq : ascii " = " = [32, 61, 32] := by decide

theorem isAscii_iff (l : Bytes) : isAscii l = true ↔ ∀ b ∈ l, b < 128 := by
  simp [isAscii]

/-- a written footer line is parsed to its raw right-hand side; `keyW` is the key as the writer pads it (`"xras  "`),
    `key` the stripped key the reader compares with -/
theorem parseKV_line (key keyW val rest : Bytes) (hkw : strip (keyW ++ [32]) = key) (hk : ∀ b ∈ keyW, okByte b)
    (hv : ∀ b ∈ val, okByte b) : parseKV key (kvLine keyW val ++ rest) = .ok (32 :: val ++ [10], rest) := by
  have hline : kvLine keyW val ++ rest = ((keyW ++ [32]) ++ 61 :: (32 :: val)) ++ 10 :: rest := by
    simp [kvLine, ascii_eq]
  have hk' : ∀ b ∈ keyW ++ [32], okByte b := List.forall_mem_append.mpr ⟨hk, by decide⟩
  have hv' : ∀ b ∈ 32 :: val, okByte b := List.forall_mem_cons.mpr ⟨by decide, hv⟩
  have hmem : ∀ b ∈ (keyW ++ [32]) ++ 61 :: (32 :: val), b ≠ 10 ∧ b < 128 :=
    List.forall_mem_append.mpr ⟨fun b hb => ⟨(hk' b hb).1, (hk' b hb).2.2⟩,
      List.forall_mem_cons.mpr ⟨by decide, fun b hb => ⟨(hv' b hb).1, (hv' b hb).2.2⟩⟩⟩
  have hsplit : splitAt (· == 61) [] (((keyW ++ [32]) ++ 61 :: (32 :: val)) ++ [10]) = [keyW ++ [32], 32 :: val ++ [10]] := by
    rw [List.append_assoc, List.cons_append]
    exact splitAt_eq _ _ (fun b hb => (hk' b hb).2.1)
      (List.forall_mem_append.mpr ⟨fun b hb => (hv' b hb).2.1, by decide⟩)
  have hasc : isAscii (((keyW ++ [32]) ++ 61 :: (32 :: val)) ++ [10]) = true :=
    (isAscii_iff _).mpr (List.forall_mem_append.mpr ⟨fun b hb => (hmem b hb).2, by decide⟩)
  unfold parseKV
  rw [hline, readline_line _ _ fun b hb => (hmem b hb).1]
  simp only [hasc, Bool.not_true, Bool.false_eq_true, if_false, hsplit, hkw, if_true]

theorem okByte_joinSp (toks : List Bytes) (h : ∀ t ∈ toks, GoodTok t) : ∀ b ∈ joinSp toks, okByte b := by
  intro b hb
  rcases mem_joinSp toks b hb with rfl | ⟨t, ht, hb⟩
  · decide
  · have := (h t ht).2 b hb
    refine ⟨?_, this.2.1, this.2.2⟩
    rintro rfl
    exact absurd this.1 (by decide)

/-- the footer values are admissible (any extension code) -/
def GoodInfoVals (vi : VolInfo) : Prop :=
  GoodVal vi.valid ∧ GoodVal vi.filename ∧ (∀ t ∈ vi.volume, GoodTok t) ∧ (∀ t ∈ vi.voxelsize, GoodTok t) ∧
  (∀ t ∈ vi.xras, GoodTok t) ∧ (∀ t ∈ vi.yras, GoodTok t) ∧ (∀ t ∈ vi.zras, GoodTok t) ∧ (∀ t ∈ vi.cras, GoodTok t)

instance (vi : VolInfo) : Decidable (GoodInfoVals vi) := by unfold GoodInfoVals; infer_instance

/-- `writeInfo` is the extension code followed by the eight key lines, which are `writeInfo` of a footer without code -/
theorem writeInfo_eq (vi : VolInfo) : writeInfo vi = vi.head.flatMap encI32 ++ writeInfo { vi with head := [] } := by
  simp [writeInfo, List.append_assoc]

theorem tok_split (toks : List Bytes) (h : ∀ t ∈ toks, GoodTok t) : ∀ t ∈ toks, t ≠ [] ∧ ∀ b ∈ t, isSpace b = false :=
  fun t ht => ⟨(h t ht).1, fun b hb => ((h t ht).2 b hb).1⟩

theorem readInfoBody_lines (vi : VolInfo) (h : GoodInfoVals vi) (head : List Int) (rest : Bytes) :
    readInfoBody head (writeInfo { vi with head := [] } ++ rest) = .ok { vi with head := head } := by
  obtain ⟨h1, h2, h3, h4, h5, h6, h7, h8⟩ := h
  have l1 := fun r => parseKV_line (ascii "valid") (ascii "valid") vi.valid r (by decide) (by decide) h1.2
  have l2 := fun r => parseKV_line (ascii "filename") (ascii "filename") vi.filename r (by decide) (by decide) h2.2
  have l3 := fun r => parseKV_line (ascii "volume") (ascii "volume") _ r (by decide) (by decide) (okByte_joinSp _ h3)
  have l4 := fun r => parseKV_line (ascii "voxelsize") (ascii "voxelsize") _ r (by decide) (by decide) (okByte_joinSp _ h4)
  have l5 := fun r => parseKV_line (ascii "xras") (ascii "xras  ") _ r (by decide) (by decide) (okByte_joinSp _ h5)
  have l6 := fun r => parseKV_line (ascii "yras") (ascii "yras  ") _ r (by decide) (by decide) (okByte_joinSp _ h6)
  have l7 := fun r => parseKV_line (ascii "zras") (ascii "zras  ") _ r (by decide) (by decide) (okByte_joinSp _ h7)
  have l8 := fun r => parseKV_line (ascii "cras") (ascii "cras  ") _ r (by decide) (by decide) (okByte_joinSp _ h8)
  simp only [writeInfo, List.flatMap_nil, List.nil_append, readInfoBody, List.append_assoc, l1, l2, l3, l4, l5, l6, l7, l8, bind, Except.bind, pure, Except.pure,
    strip_pad _ h1.1, strip_pad _ h2.1, wsplit_pad _ (tok_split _ h3),
    wsplit_pad _ (tok_split _ h4), wsplit_pad _ (tok_split _ h5), wsplit_pad _ (tok_split _ h6),
    wsplit_pad _ (tok_split _ h7), wsplit_pad _ (tok_split _ h8)]

/-- what the reader stores for an extension code: `[2,1,20]` is normalised to `[2,0,20]` -/
def normHead (h : List Int) : List Int := if h = [2, 1, 20] then [2, 0, 20] else h

theorem readVolInfo_nil : readVolInfo [] = .ok none := rfl

theorem readVolInfo_code1 (r : Bytes) : readVolInfo (be32 20 ++ r) = (readInfoBody [20] r).map some := by
  unfold readVolInfo
  rw [fromfile_one 20 (by decide)]
  rfl

/-- the extension codes `2 0 20` and `2 1 20` lead to the same reader state -/
theorem readVolInfo_code3 (x : Nat) (hx : x = 0 ∨ x = 1) (r : Bytes) :
    readVolInfo (be32 2 ++ (be32 x ++ (be32 20 ++ r))) = (readInfoBody [2, 0, 20] r).map some := by
  have h2 : fromfile 2 (be32 x ++ (be32 20 ++ r)) = ([x, 20], r) := by
    have := fromfile_words [x, 20] (by rcases hx with rfl | rfl <;> decide) r 2 rfl
    simpa using this
  unfold readVolInfo
  rw [fromfile_one 2 (by decide)]
  simp only [show ¬ ([2] : List Nat) = [20] by decide, if_false, h2]
  rcases hx with rfl | rfl <;> simp

/-- **the footer is read back** (extension codes `[20]`, `[2,0,20]`, and `[2,1,20]` which is normalised) -/
theorem readVolInfo_writeInfo (vi : VolInfo) (hh : vi.head = [20] ∨ vi.head = [2, 0, 20] ∨ vi.head = [2, 1, 20])
    (h : GoodInfoVals vi) (rest : Bytes) :
    readVolInfo (writeInfo vi ++ rest) = .ok (some { vi with head := normHead vi.head }) := by
  rw [writeInfo_eq, List.append_assoc]
  rcases hh with hh | hh | hh
  · rw [hh]
    exact (readVolInfo_code1 _).trans (by rw [readInfoBody_lines vi h]; rfl)
  · rw [hh]
    exact (readVolInfo_code3 0 (Or.inl rfl) _).trans (by rw [readInfoBody_lines vi h]; rfl)
  · rw [hh]
    exact (readVolInfo_code3 1 (Or.inr rfl) _).trans (by rw [readInfoBody_lines vi h]; rfl)

end FsSurf
end LapyVerif
