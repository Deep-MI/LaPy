import LapyVerif.Model.Topo
/-
  Model of the geometric measures of `lapy/tria_mesh.py` (+ `TetMesh.avg_edge_length`).
-/
namespace LapyVerif
namespace Measures
open V3

variable {K : Type} [Zero K] [Add K] [Sub K] [Mul K] [Div K] [Neg K] [NatCast K] [HasSqrt K]
variable [LT K] [DecidableRel (α := K) (· < ·)]

def c (n : Nat) : K := ((n : Nat) : K)

/-- `tria_areas` (Heron) for one triangle -/
def heron (v0 v1 v2 : V3 K) : K :=
  let a := sqrt (normSq (v1 - v0)); let b := sqrt (normSq (v2 - v1)); let cc := sqrt (normSq (v0 - v2))
  let ph := (c 1 / c 2) * (a + b + cc)
  sqrt (ph * (ph - a) * (ph - b) * (ph - cc))

def triAreas (vtx : Nat → V3 K) (ts : List Tri) : List K :=
  ts.map fun τ => heron (vtx τ.1) (vtx τ.2.1) (vtx τ.2.2)

def area (vtx : Nat → V3 K) (ts : List Tri) : K := (triAreas vtx ts).sum

/-- the divergence-theorem sum of `volume()` (without its guards) -/
def volumeSum (vtx : Nat → V3 K) (ts : List Tri) : K :=
  (ts.map fun τ =>
    let v0 := vtx τ.1; let v1 := vtx τ.2.1; let v2 := vtx τ.2.2
    dot v0 (cross (v1 - v0) (v2 - v0))).sum / c 6

/-- `volume()`: `0.0` if not closed, `ValueError` if closed but not oriented -/
def volume (vtx : Nat → V3 K) (ts : List Tri) : Except String K :=
  if !Topo.isClosed ts then .ok 0
  else if !Topo.isOriented ts then .error "ValueError"
  else .ok (volumeSum vtx ts)

/-- cross-product area `0.5*|cr|` used by `vertex_areas` (`centroid` computes the same number from the edges `v2 − v1`, `v0 − v2`) -/
def crossArea (v0 v1 v2 : V3 K) : K := (c 1 / c 2) * sqrt (normSq (cross (v1 - v0) (v2 - v0)))

/-- `vertex_areas`: `bincount(t, area3)/3` — length `max index + 1` -/
def vertexAreas (vtx : Nat → V3 K) (ts : List Tri) : List K :=
  let n := (ts.foldl (fun m τ => max m (max τ.1 (max τ.2.1 τ.2.2) + 1)) 0)
  (List.range n).map fun i =>
    (ts.map fun τ =>
      let a := crossArea (vtx τ.1) (vtx τ.2.1) (vtx τ.2.2)
      (if τ.1 = i then a else 0) + (if τ.2.1 = i then a else 0) + (if τ.2.2 = i then a else 0)).sum / c 3

/-- distinct undirected edges `(i,j)`, `i<j` — the stored entries of `triu(adj_sym, 1)` -/
def undirectedEdges (symKeys : List (Nat × Nat)) : List (Nat × Nat) :=
  (symKeys.filter fun k => k.1 < k.2).eraseDups

def avgEdgeLength (vtx : Nat → V3 K) (ts : List Tri) : K :=
  meanL ((undirectedEdges (Topo.symKeys ts)).map fun k => sqrt (normSq (vtx k.1 - vtx k.2)))

/-- `ln[ln < eps] = 1` -/
def guard1 (x : K) : K := if x < epsK then c 1 else x

def triNormal (v0 v1 v2 : V3 K) : V3 K :=
  let n := cross (v1 - v0) (v2 - v0)
  let ln := guard1 (sqrt (normSq n))
  ⟨n.x / ln, n.y / ln, n.z / ln⟩

def triNormals (vtx : Nat → V3 K) (ts : List Tri) : List (V3 K) :=
  ts.map fun τ => triNormal (vtx τ.1) (vtx τ.2.1) (vtx τ.2.2)

/-- accumulated (area-weighted) corner normals of `vertex_normals`, before normalisation -/
def vertexNormalAcc (vtx : Nat → V3 K) (ts : List Tri) (i : Nat) : V3 K :=
  ts.foldl (fun acc τ =>
    let v0 := vtx τ.1; let v1 := vtx τ.2.1; let v2 := vtx τ.2.2
    let cr0 := cross (v1 - v0) (-(v0 - v2)); let cr1 := cross (v2 - v1) (-(v1 - v0)); let cr2 := cross (v0 - v2) (-(v2 - v1))
    let acc := if τ.1 = i then acc + cr0 else acc
    let acc := if τ.2.1 = i then acc + cr1 else acc
    if τ.2.2 = i then acc + cr2 else acc) ⟨0, 0, 0⟩

/-- `vertex_normals`; `none` = ValueError (not oriented) -/
def vertexNormals (nv : Nat) (vtx : Nat → V3 K) (ts : List Tri) : Option (List (V3 K)) :=
  if !Topo.isOriented ts then none
  else some <| (List.range nv).map fun i =>
    let n := vertexNormalAcc vtx ts i
    let ln := guard1 (sqrt (normSq n))
    ⟨n.x / ln, n.y / ln, n.z / ln⟩

/-- `tria_qualities`: `2*sqrt(3)*|n| / (sum of squared edge lengths)` -/
def triQuality (v0 v1 v2 : V3 K) : K :=
  let n := cross (v1 - v0) (-(v0 - v2))
  let ln := sqrt (normSq n)
  let q := c 2 * sqrt (c 3) * ln
  let es := normSq (v1 - v0) + normSq (v2 - v1) + normSq (v0 - v2)
  q / es

def triQualities (vtx : Nat → V3 K) (ts : List Tri) : List K :=
  ts.map fun τ => triQuality (vtx τ.1) (vtx τ.2.1) (vtx τ.2.2)

/-- `centroid()` → (centroid, total area) -/
def centroid (vtx : Nat → V3 K) (ts : List Tri) : V3 K × K :=
  let areas := ts.map fun τ =>
    (c 1 / c 2) * sqrt (normSq (cross (vtx τ.2.2 - vtx τ.2.1) (vtx τ.1 - vtx τ.2.2)))
  let total := areas.sum
  let cs := (ts.zip areas).map fun (τ, a) =>
    let w := a / total
    let ctr := smul (c 1 / c 3) (vtx τ.1 + vtx τ.2.1 + vtx τ.2.2)
    smul w ctr     -- `centers * areas[:, newaxis]`
  (cs.foldl (· + ·) ⟨0, 0, 0⟩, total)

/-- `normalize_`: `v ↦ (1/sqrt(area)) * (v - centroid)` -/
def normalize (verts : List (V3 K)) (vtx : Nat → V3 K) (ts : List Tri) : List (V3 K) :=
  let (ctr, a) := centroid vtx ts
  let s := c 1 / sqrt a
  verts.map fun v => smul s (v - ctr)

/-- `normal_offset_(d)`: `v + d * n`; `none` = ValueError -/
def normalOffset (d : K) (verts : List (V3 K)) (vtx : Nat → V3 K) (ts : List Tri) : Option (List (V3 K)) :=
  match vertexNormals verts.length vtx ts with
  | none => none
  | some ns => some <| (verts.zip ns).map fun (v, n) => v + smul d n

/-- `TetMesh.avg_edge_length` : keys of `TetMesh.construct_adj_sym` -/
def tetSymKeys (ts : List Tet) : List (Nat × Nat) :=
  ts.flatMap fun (t1, t2, t3, t4) =>
    [(t1, t2), (t2, t1), (t2, t3), (t3, t2), (t3, t1), (t1, t3), (t1, t4), (t2, t4), (t3, t4), (t4, t1), (t4, t2), (t4, t3)]

def tetAvgEdgeLength (vtx : Nat → V3 K) (ts : List Tet) : K :=
  meanL ((undirectedEdges (tetSymKeys ts)).map fun k => sqrt (normSq (vtx k.1 - vtx k.2)))

end Measures
end LapyVerif
