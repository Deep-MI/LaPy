import LapyVerif.Props.C01
import LapyVerif.Props.C09
import LapyVerif.Props.C13b
import LapyVerif.Lemmas.Balanced
/-
  C05 (continued) — affine reproduction: on a flat triangle mesh the stiffness matrix annihilates affine functions
  at interior vertices, `(A u)_i = 0` for `u = a·x + b`.

  Route: `(A u)_i = Σ_τ area(τ) ∇λ_i|τ · ∇u|τ` (`C01.stiff_form`); on a flat non-degenerate triangle
  `area · ∇λ_i · ∇u = (σ/2) a · (ẑ × e_opp)` where `e_opp` is the edge opposite to `i`, directed with the winding, and
  `σ = ±1` the orientation of the triangle in the plane (`flat_term`); the opposite edges around `i` form closed loops
  (`BalancedAt`), so `Σ e_opp` telescopes to zero (`Lemmas.telescope_sum_zero`).
  Every triangle list, no bound on the number of triangles, no `Distinct` hypothesis (degenerate index triples are
  excluded by `NonDegenTri` anyway, and the identity is linear in the corner indicator).

  "Flat" is `Flat`: all vertices in the coordinate plane `z = 0`, which is where `σ` and `ẑ` get their meaning.
  `affine_term` alone holds for any position in space.  A mesh in another plane is first moved to `z = 0` by a rigid
  motion, under which the blocks of `A` do not change (`Props/C04.lean`); that step is not taken here.
-/
namespace LapyVerif.Props.C05
open V3 Lemmas

theorem flat_normSq (v1 v2 v3 : V3 ℝ) (h1 : v1.z = 0) (h2 : v2.z = 0) (h3 : v3.z = 0) :
    normSq (Spec.triN v1 v2 v3) = (Spec.triN v1 v2 v3).z * (Spec.triN v1 v2 v3).z := by
  rw [Spec.triN_flat v1 v2 v3 h1 h2 h3, normSq_smul, normSq_ez, mul_one, smul_z, mul_one]

theorem flat_triVol (v1 v2 v3 : V3 ℝ) (h1 : v1.z = 0) (h2 : v2.z = 0) (h3 : v3.z = 0) :
    Fem.triVol v1 v2 v3 = 2 * |(Spec.triN v1 v2 v3).z| := by
  rw [Fem.triVol, FemTri.triCr_eq_triN, flat_normSq v1 v2 v3 h1 h2 h3, sqrt_real, Real.sqrt_mul_self_eq_abs]
  norm_num

/-- **one triangle, any position in space**: the stiffness term of a nodal function against an affine one is the flux
    of `a` through the combined opposite edges, turned by the unit normal -/
theorem affine_term (v1 v2 v3 a : V3 ℝ) (b d1 d2 d3 : ℝ) (hN : 0 < normSq (Spec.triN v1 v2 v3)) :
    Spec.triArea v1 v2 v3 *
        dot (Spec.gradTri v1 v2 v3 d1 d2 d3)
          (Spec.gradTri v1 v2 v3 (dot a v1 + b) (dot a v2 + b) (dot a v3 + b))
      = dot a (cross (Spec.triN v1 v2 v3) (Spec.edgeComb v1 v2 v3 d1 d2 d3))
          / (2 * Real.sqrt (normSq (Spec.triN v1 v2 v3))) := by
  have hs := Real.sqrt_pos.mpr hN
  rw [Spec.gradTri_dot, Spec.edgeComb_affine, dot_cross_rot, Spec.triArea]
  nth_rewrite 2 [← Real.mul_self_sqrt hN.le]
  field_simp

theorem flat_term (v1 v2 v3 a : V3 ℝ) (b d1 d2 d3 σ : ℝ)
    (h1 : v1.z = 0) (h2 : v2.z = 0) (h3 : v3.z = 0)
    (hN : 0 < normSq (Spec.triN v1 v2 v3))
    (hσ : (Spec.triN v1 v2 v3).z = σ * |(Spec.triN v1 v2 v3).z|) :
    Spec.triArea v1 v2 v3 *
        dot (Spec.gradTri v1 v2 v3 d1 d2 d3)
          (Spec.gradTri v1 v2 v3 (dot a v1 + b) (dot a v2 + b) (dot a v3 + b))
      = σ / 2 * dot a (cross ⟨0, 0, 1⟩ (smul d1 (v3 - v2) + smul d2 (v1 - v3) + smul d3 (v2 - v1))) := by
  change _ = σ / 2 * dot a (cross ⟨0, 0, 1⟩ (Spec.edgeComb v1 v2 v3 d1 d2 d3))
  rw [affine_term _ _ _ _ _ _ _ _ hN]
  rw [flat_normSq v1 v2 v3 h1 h2 h3] at hN
  -- the normal is `n = σ |n|` times `ẑ`, and `|n|` cancels against the length of the normal
  have hn0 : |(Spec.triN v1 v2 v3).z| ≠ 0 := abs_ne_zero.mpr fun h => by simp [h] at hN
  rw [flat_normSq v1 v2 v3 h1 h2 h3, Real.sqrt_mul_self_eq_abs, Spec.triN_flat v1 v2 v3 h1 h2 h3, cross_smul_left,
    dot_smul_right, smul_z, mul_one]
  generalize (Spec.triN v1 v2 v3).z = n at hσ hn0 ⊢
  nth_rewrite 1 [hσ]
  field_simp

/-- the edges opposite to vertex `i` in `τ`, directed with the winding of `τ` (one arc per corner of `τ` equal to `i`) -/
def oppTri (i : Nat) (τ : Tri) : List (Nat × Nat) :=
  (if τ.1 = i then [(τ.2.1, τ.2.2)] else []) ++ (if τ.2.1 = i then [(τ.2.2, τ.1)] else []) ++
    (if τ.2.2 = i then [(τ.1, τ.2.1)] else [])

/-- the link of `i`: all opposite edges -/
def opp (i : Nat) (ts : List Tri) : List (Nat × Nat) := ts.flatMap (oppTri i)

theorem opp_eq (i : Nat) (ts : List Tri) :
    opp i ts = ts.flatMap fun (t0, t1, t2) =>
      (if t0 = i then [(t1, t2)] else []) ++ (if t1 = i then [(t2, t0)] else []) ++
        (if t2 = i then [(t0, t1)] else []) := rfl

/-- the opposite edges around `i` form closed loops: every vertex starts as many of them as it ends -/
def BalancedAt (i : Nat) (ts : List Tri) : Prop := DegBalanced (opp i ts)

instance (i : Nat) (ts : List Tri) : Decidable (BalancedAt i ts) :=
  decidable_of_iff _ (degBalanced_iff_perm _).symm

theorem sum_opp (i : Nat) (ts : List Tri) (G : Nat × Nat → ℝ) :
    ((opp i ts).map G).sum = (ts.map fun τ => ((oppTri i τ).map G).sum).sum :=
  List.sum_map_flatMap ts (oppTri i) G

def Flat (vtx : Nat → V3 ℝ) (ts : List Tri) : Prop :=
  ∀ τ ∈ ts, (vtx τ.1).z = 0 ∧ (vtx τ.2.1).z = 0 ∧ (vtx τ.2.2).z = 0

/-- `z`-component of twice the area vector: positive iff `τ` is counter-clockwise in the plane -/
def nz (vtx : Nat → V3 ℝ) (τ : Tri) : ℝ := (Spec.triN (vtx τ.1) (vtx τ.2.1) (vtx τ.2.2)).z

theorem sum_oppTri (i : Nat) (τ : Tri) (g : Nat → ℝ) :
    ((oppTri i τ).map fun h => g h.2 - g h.1).sum =
      (if τ.1 = i then 1 else 0) * (g τ.2.2 - g τ.2.1) + (if τ.2.1 = i then 1 else 0) * (g τ.1 - g τ.2.2)
        + (if τ.2.2 = i then 1 else 0) * (g τ.2.1 - g τ.1) := by
  simp only [oppTri, List.map_append, List.sum_append, apply_ite (List.map _), apply_ite List.sum, List.map_cons, List.map_nil,
    List.sum_cons, List.sum_nil, add_zero, ite_mul, one_mul, zero_mul]

theorem term_eq (vtx : Nat → V3 ℝ) (a : V3 ℝ) (b σ : ℝ) (i : Nat) (τ : Tri)
    (hz : (vtx τ.1).z = 0 ∧ (vtx τ.2.1).z = 0 ∧ (vtx τ.2.2).z = 0)
    (hN : 0 < normSq (Spec.triN (vtx τ.1) (vtx τ.2.1) (vtx τ.2.2)))
    (hσ : (τ.1 = i ∨ τ.2.1 = i ∨ τ.2.2 = i) → nz vtx τ = σ * |nz vtx τ|) :
    Spec.triArea (vtx τ.1) (vtx τ.2.1) (vtx τ.2.2) *
        dot (Spec.gradTri (vtx τ.1) (vtx τ.2.1) (vtx τ.2.2)
              (if τ.1 = i then 1 else 0) (if τ.2.1 = i then 1 else 0) (if τ.2.2 = i then 1 else 0))
            (Spec.gradTri (vtx τ.1) (vtx τ.2.1) (vtx τ.2.2)
              (dot a (vtx τ.1) + b) (dot a (vtx τ.2.1) + b) (dot a (vtx τ.2.2) + b))
      = σ / 2 * ((oppTri i τ).map fun h =>
          dot a (cross ⟨0, 0, 1⟩ (vtx h.2)) - dot a (cross ⟨0, 0, 1⟩ (vtx h.1))).sum := by
  by_cases hi : τ.1 = i ∨ τ.2.1 = i ∨ τ.2.2 = i
  · rw [flat_term _ _ _ a b _ _ _ σ hz.1 hz.2.1 hz.2.2 hN (hσ hi), sum_oppTri i τ fun j => dot a (cross ⟨0, 0, 1⟩ (vtx j))]
    simp only [cross_add_right, cross_smul_right, cross_sub_right, dot_add_right, dot_smul_right, dot_sub_right]
  · have h1 : ¬ τ.1 = i := fun h => hi (Or.inl h)
    have h2 : ¬ τ.2.1 = i := fun h => hi (Or.inr (Or.inl h))
    have h3 : ¬ τ.2.2 = i := fun h => hi (Or.inr (Or.inr h))
    simp only [oppTri, h1, h2, h3, if_false, List.append_nil, List.map_nil, List.sum_nil, mul_zero]
    rw [C01.gradTri_const, dot_zero_left, mul_zero]

/-- **affine functions are discretely harmonic at interior vertices of a flat mesh**: row `i` of `A u` vanishes
    for `u = a·x + b` when the edges opposite to `i` form closed loops and all triangles around `i` have the same
    orientation in the plane (`σ = 1`: counter-clockwise, `σ = -1`: clockwise). -/
theorem affine_harmonic (vtx : Nat → V3 ℝ) (ts : List Tri) (hnd : NonDegenTri vtx ts) (hflat : Flat vtx ts)
    (a : V3 ℝ) (b : ℝ) (i : Nat) (hbal : BalancedAt i ts) (σ : ℝ)
    (hσ : ∀ τ ∈ ts, (τ.1 = i ∨ τ.2.1 = i ∨ τ.2.2 = i) → nz vtx τ = σ * |nz vtx τ|) :
    Coo.mulVec (Fem.stiffTria vtx ts) (fun j => dot a (vtx j) + b) i = 0 := by
  rw [Coo.mulVec_eq_form, C01.stiff_form vtx ts hnd,
    List.map_congr_left fun τ hτ => term_eq vtx a b σ i τ (hflat τ hτ)
      (FemTri.normSq_pos_of_nondegen (hnd τ hτ)) (hσ τ hτ),
    List.sum_map_mul_left, ← sum_opp, telescope_sum_zero (opp i ts) hbal fun j => dot a (cross ⟨0, 0, 1⟩ (vtx j)),
    mul_zero]

theorem affine_harmonic_pos (vtx : Nat → V3 ℝ) (ts : List Tri) (hnd : NonDegenTri vtx ts) (hflat : Flat vtx ts)
    (a : V3 ℝ) (b : ℝ) (i : Nat) (hbal : BalancedAt i ts)
    (hpos : ∀ τ ∈ ts, (τ.1 = i ∨ τ.2.1 = i ∨ τ.2.2 = i) → 0 < nz vtx τ) :
    Coo.mulVec (Fem.stiffTria vtx ts) (fun j => dot a (vtx j) + b) i = 0 :=
  affine_harmonic vtx ts hnd hflat a b i hbal 1 fun τ hτ hi => by rw [abs_of_pos (hpos τ hτ hi), one_mul]

/-- flip the clockwise triangles -/
noncomputable def orientCCW (vtx : Nat → V3 ℝ) (τ : Tri) : Tri := if nz vtx τ < 0 then C01.swapTri τ else τ

theorem nz_swap (vtx : Nat → V3 ℝ) (τ : Tri) : nz vtx (C01.swapTri τ) = - nz vtx τ :=
  congrArg V3.z (Spec.triN_swap ..)

theorem nz_ne_zero (vtx : Nat → V3 ℝ) (τ : Tri)
    (hz : (vtx τ.1).z = 0 ∧ (vtx τ.2.1).z = 0 ∧ (vtx τ.2.2).z = 0)
    (hN : 0 < normSq (Spec.triN (vtx τ.1) (vtx τ.2.1) (vtx τ.2.2))) : nz vtx τ ≠ 0 := by
  intro h
  rw [flat_normSq _ _ _ hz.1 hz.2.1 hz.2.2] at hN
  unfold nz at h
  rw [h] at hN; simp at hN

theorem orientCCW_cases (vtx : Nat → V3 ℝ) (τ : Tri) :
    (nz vtx τ < 0 ∧ orientCCW vtx τ = C01.swapTri τ) ∨ (¬ nz vtx τ < 0 ∧ orientCCW vtx τ = τ) := by
  by_cases h : nz vtx τ < 0 <;> simp [orientCCW, h]

/-- **no orientation hypothesis**: the stiffness matrix does not see the winding of the triangles
    (`C01.stiff_form_reorder`), so it is enough that the link of `i` closes up after all triangles have been turned
    counter-clockwise. -/
theorem affine_harmonic_reorient (vtx : Nat → V3 ℝ) (ts : List Tri) (hnd : NonDegenTri vtx ts) (hflat : Flat vtx ts)
    (a : V3 ℝ) (b : ℝ) (i : Nat) (hbal : BalancedAt i (ts.map (orientCCW vtx))) :
    Coo.mulVec (Fem.stiffTria vtx ts) (fun j => dot a (vtx j) + b) i = 0 := by
  have hor : ∀ τ, orientCCW vtx τ = τ ∨ orientCCW vtx τ = C01.swapTri τ ∨ orientCCW vtx τ = C01.rotTri τ := fun τ =>
    (orientCCW_cases vtx τ).elim (fun h => Or.inr (Or.inl h.2)) fun h => Or.inl h.2
  rw [Coo.mulVec_eq_form, ← C01.stiff_form_reorder vtx ts hnd (orientCCW vtx) hor, ← Coo.mulVec_eq_form]
  have hnd' := C01.nonDegenTri_reorder vtx ts hnd (orientCCW vtx) hor
  have hflat' : Flat vtx (ts.map (orientCCW vtx)) := by
    refine List.forall_mem_map.2 fun τ hτ => ?_
    have hz := hflat τ hτ
    rcases orientCCW_cases vtx τ with ⟨_, e⟩ | ⟨_, e⟩ <;> rw [e]
    · exact ⟨hz.2.1, hz.1, hz.2.2⟩
    · exact hz
  refine affine_harmonic_pos vtx _ hnd' hflat' a b i hbal (List.forall_mem_map.2 fun τ hτ _ => ?_)
  -- a flat non-degenerate triangle has `nz ≠ 0`, and the flip changes its sign
  have hne := nz_ne_zero vtx τ (hflat τ hτ) (FemTri.normSq_pos_of_nondegen (hnd τ hτ))
  rcases orientCCW_cases vtx τ with ⟨hn, e⟩ | ⟨hn, e⟩ <;> rw [e]
  · rw [nz_swap]; exact neg_pos.mpr hn
  · exact lt_of_le_of_ne (not_lt.mp hn) hne.symm

open LapyVerif.Props.C09 (Distinct halfEdgeCount edgeCount)

/-- in the link of `i`, `p` starts as many arcs as `τ` has half-edges `i→p` and ends as many as it has `p→i`
    (also for a degenerate triple).  Corner by corner: each side is a sum of three indicators, one per corner of `τ`. -/
theorem count_oppTri (i p : Nat) (τ : Tri) :
    ((oppTri i τ).map (·.1)).count p = (OrientLemmas.dirEdges τ).count (i, p) ∧
    ((oppTri i τ).map (·.2)).count p = (OrientLemmas.dirEdges τ).count (p, i) := by
  simp only [oppTri, OrientLemmas.dirEdges, List.map_append, List.count_append, apply_ite (List.map _),
    apply_ite (List.count p), List.map_cons, List.map_nil, List.count_cons, List.count_nil, beq_iff_eq, Prod.mk.injEq,
    Nat.zero_add, ← ite_and, and_comm (a := _ = p) (b := _ = i)]
  exact ⟨by omega, by omega⟩

theorem count_opp (i p : Nat) (ts : List Tri) :
    ((opp i ts).map (·.1)).count p = (Topo.dirKeys ts).count (i, p) ∧
    ((opp i ts).map (·.2)).count p = (Topo.dirKeys ts).count (p, i) := by
  simp only [opp, List.map_flatMap, Topo.dirKeys_eq, List.count_flatMap, Function.comp_def, (count_oppTri i p _).1,
    (count_oppTri i p _).2, and_self]

theorem balancedAt_iff_count (i : Nat) (ts : List Tri) :
    BalancedAt i ts ↔ ∀ p, (Topo.dirKeys ts).count (i, p) = (Topo.dirKeys ts).count (p, i) :=
  forall_congr' fun p => by rw [(count_opp i p ts).1, (count_opp i p ts).2]

theorem balancedAt_iff (i : Nat) (ts : List Tri) (hd : Distinct ts) :
    BalancedAt i ts ↔ ∀ p, halfEdgeCount ts i p = halfEdgeCount ts p i := by
  simp only [balancedAt_iff_count, C09.count_dirKeys ts hd]

/-- interior vertices of an oriented mesh are balanced: no edge at `i` is a boundary edge -/
theorem balancedAt_of_interior (i : Nat) (ts : List Tri) (hd : Distinct ts) (ho : Topo.isOriented ts = true)
    (hint : ∀ p, edgeCount ts i p ≠ 1) : BalancedAt i ts :=
  (balancedAt_iff_count i ts).2 fun p => Topo.count_dirKeys_comm ts ho i p (by rw [C09.count_symKeys ts hd]; exact hint p)

theorem balancedAt_of_closed (i : Nat) (ts : List Tri) (hd : Distinct ts) (hc : Topo.isClosed ts = true)
    (ho : Topo.isOriented ts = true) : BalancedAt i ts :=
  (balancedAt_iff_count i ts).2 fun p => C13.dirKeys_arcBalanced ts hc ho i p

/-! ### non-vacuity: a four-triangle umbrella around vertex 0 -/

/-- centre `0` at the origin, rim `1,2,3,4` at `(±1,0,0)`, `(0,±1,0)` -/
def umbV : Nat → V3 ℝ := fun i =>
  match i with
  | 0 => ⟨0, 0, 0⟩
  | 1 => ⟨1, 0, 0⟩
  | 2 => ⟨0, 1, 0⟩
  | 3 => ⟨-1, 0, 0⟩
  | _ => ⟨0, -1, 0⟩

def umb : List Tri := [(0, 1, 2), (0, 2, 3), (0, 3, 4), (0, 4, 1)]

theorem umb_balanced : BalancedAt 0 umb := by
  decide

/-- a rim vertex is not balanced: its link is an open path -/
example : ¬ BalancedAt 1 umb := by
  decide

theorem umbV_z (i : Nat) : (umbV i).z = 0 := by
  unfold umbV
  split <;> rfl

theorem umb_flat : Flat umbV umb := fun _ _ => ⟨umbV_z _, umbV_z _, umbV_z _⟩

theorem umb_nz : ∀ τ ∈ umb, nz umbV τ = 1 := by
  intro τ hτ
  simp only [umb, List.mem_cons, List.not_mem_nil, or_false] at hτ
  rcases hτ with rfl | rfl | rfl | rfl <;> (v3_flat [nz, Spec.triN, umbV]; norm_num)

theorem nondegen_of_abs_nz (vtx : Nat → V3 ℝ) (τ : Tri)
    (hz : (vtx τ.1).z = 0 ∧ (vtx τ.2.1).z = 0 ∧ (vtx τ.2.2).z = 0) (h : |nz vtx τ| = 1) :
    ¬ (Fem.triVol (vtx τ.1) (vtx τ.2.1) (vtx τ.2.2) < epsK) := by
  rw [flat_triVol _ _ _ hz.1 hz.2.1 hz.2.2, ← nz, h, epsK_real]
  norm_num

theorem umb_nondegen : NonDegenTri umbV umb := fun τ hτ =>
  nondegen_of_abs_nz umbV τ (umb_flat τ hτ) (by rw [umb_nz τ hτ, abs_one])

/-- all hypotheses of `affine_harmonic_pos` hold for the umbrella, so row 0 of `A u` vanishes for every affine `u` -/
example (a : V3 ℝ) (b : ℝ) : Coo.mulVec (Fem.stiffTria umbV umb) (fun j => dot a (umbV j) + b) 0 = 0 :=
  affine_harmonic_pos umbV umb umb_nondegen umb_flat a b 0 umb_balanced
    fun τ hτ _ => by rw [umb_nz τ hτ]; norm_num

/-- flipping one triangle of the umbrella destroys the balance of the stored link … -/
example : ¬ BalancedAt 0 [(0, 2, 1), (0, 2, 3), (0, 3, 4), (0, 4, 1)] := by
  decide

/-- … but `affine_harmonic_reorient` still applies -/
def umbF : List Tri := [(0, 2, 1), (0, 2, 3), (0, 3, 4), (0, 4, 1)]

theorem umbF_nz : nz umbV (0, 2, 1) = -1 := by
  v3_flat [nz, Spec.triN, umbV]; norm_num

theorem umbF_orient : umbF.map (orientCCW umbV) = [(2, 0, 1), (0, 2, 3), (0, 3, 4), (0, 4, 1)] := by
  have e0 : orientCCW umbV (0, 2, 1) = (2, 0, 1) := by
    unfold orientCCW; rw [umbF_nz]; norm_num [C01.swapTri]
  have e : ∀ τ ∈ umb, orientCCW umbV τ = τ := by
    intro τ hτ; unfold orientCCW; rw [umb_nz τ hτ]; norm_num
  simp only [umbF, List.map_cons, List.map_nil, e0]
  rw [e (0, 2, 3) (by decide), e (0, 3, 4) (by decide), e (0, 4, 1) (by decide)]

theorem umbF_flat : Flat umbV umbF := fun _ _ => ⟨umbV_z _, umbV_z _, umbV_z _⟩

theorem umbF_nondegen : NonDegenTri umbV umbF := by
  intro τ hτ
  by_cases h : τ = (0, 2, 1)
  · exact nondegen_of_abs_nz umbV τ (umbF_flat τ hτ) (by rw [h, umbF_nz]; norm_num)
  · exact umb_nondegen τ (by simp only [umbF, umb, List.mem_cons] at hτ ⊢; tauto)

example (a : V3 ℝ) (b : ℝ) : Coo.mulVec (Fem.stiffTria umbV umbF) (fun j => dot a (umbV j) + b) 0 = 0 := by
  apply affine_harmonic_reorient umbV umbF umbF_nondegen umbF_flat a b 0
  rw [umbF_orient]
  decide
end LapyVerif.Props.C05
