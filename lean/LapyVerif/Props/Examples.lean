import LapyVerif.Props.C01
import LapyVerif.Props.C02b
import LapyVerif.Props.C05
import LapyVerif.Props.C06
import LapyVerif.Props.C07
import LapyVerif.Props.C13
import LapyVerif.Props.C19b
/-
  Non-vacuity: every theorem of C01, C02, C05, C06, C07, C13 (and the model-level C19b) listed below is instantiated on
  a concrete, non-trivial mesh / system whose hypotheses are discharged here.
  Meshes: the unit square split in two triangles, the unit right triangle, the unit tetrahedron.
-/
namespace LapyVerif.Props.Examples
open V3

/-- corners of the unit square in the plane `z = 0` -/
def vsq : Nat → V3 ℝ := vtx4 ⟨0, 0, 0⟩ ⟨1, 0, 0⟩ ⟨0, 1, 0⟩ ⟨1, 1, 0⟩
/-- the square split along the diagonal `1–2` (consistently oriented) -/
def tsq : List Tri := [(0, 1, 2), (1, 3, 2)]
/-- the unit right triangle -/
def vtri : Nat → V3 ℝ := vtx3 ⟨0, 0, 0⟩ ⟨1, 0, 0⟩ ⟨0, 1, 0⟩
/-- corners of the unit tetrahedron -/
def vtet : Nat → V3 ℝ := vtx4 ⟨0, 0, 0⟩ ⟨1, 0, 0⟩ ⟨0, 1, 0⟩ ⟨0, 0, 1⟩
def ttet : List Tet := [(0, 1, 2, 3)]

theorem sum_tsq (F : Tri → ℝ) : (tsq.map F).sum = F (0, 1, 2) + F (1, 3, 2) := by simp [tsq]
theorem sum_ttet (F : Tet → ℝ) : (ttet.map F).sum = F (0, 1, 2, 3) := by simp [ttet]

theorem triN_sq0 : Spec.triN (vsq 0) (vsq 1) (vsq 2) = ⟨0, 0, 1⟩ := Spec.triN_unit
theorem triN_sq1 : Spec.triN (vsq 1) (vsq 3) (vsq 2) = ⟨0, 0, 1⟩ := Spec.triN_unit'
theorem triN_tri : Spec.triN (vtri 0) (vtri 1) (vtri 2) = ⟨0, 0, 1⟩ := Spec.triN_unit

theorem triArea_sq0 : Spec.triArea (vsq 0) (vsq 1) (vsq 2) = 1 / 2 := Spec.triArea_unit
theorem triArea_sq1 : Spec.triArea (vsq 1) (vsq 3) (vsq 2) = 1 / 2 := Spec.triArea_unit'
theorem triArea_tri : Spec.triArea (vtri 0) (vtri 1) (vtri 2) = 1 / 2 := Spec.triArea_unit

theorem tetDet_unit : Spec.tetDet (vtet 0) (vtet 1) (vtet 2) (vtet 3) = 1 := Spec.tetDet_unit

theorem eps_lt_one : ¬ ((1 : ℝ) < epsK) := by rw [epsK_real]; norm_num

/-- the guards of the gradient kernels (normal of length 1, determinant 1) … -/
theorem ndln_sq : C06.NonDegenLn vsq tsq := by
  intro τ hτ
  simp only [tsq, List.mem_cons, List.mem_nil_iff, or_false] at hτ
  rcases hτ with rfl | rfl
  · rw [triN_sq0, normSq_ez, Real.sqrt_one]; exact eps_lt_one
  · rw [triN_sq1, normSq_ez, Real.sqrt_one]; exact eps_lt_one

theorem nddet_tet : C06.NonDegenDet vtet ttet := by
  intro τ hτ
  simp only [ttet, List.mem_singleton] at hτ
  subst hτ
  rw [tetDet_unit, abs_one]; exact eps_lt_one

/-- … are stronger than those of `_fem_tria` (`vol < eps`) and `_fem_tetra` (`vol == 0`): **the two-triangle square and
    the unit tetrahedron pass all of them** -/
theorem nd_sq : NonDegenTri vsq tsq := C06.nondegenTri_of_ln vsq tsq ndln_sq

theorem nd_tet : NonDegenTet vtet ttet := C06.nondegenTet_of_det vtet ttet nddet_tet

/-! ### C01 -/

/-- `stiff_form` on the square: `f·A·g = ½ ∇f·∇g|τ₀ + ½ ∇f·∇g|τ₁` -/
theorem ex_stiff_form (f g : Nat → ℝ) :
    Coo.form (Fem.stiffTria vsq tsq) f g =
      1 / 2 * dot (Spec.gradTri (vsq 0) (vsq 1) (vsq 2) (f 0) (f 1) (f 2)) (Spec.gradTri (vsq 0) (vsq 1) (vsq 2) (g 0) (g 1) (g 2))
      + 1 / 2 * dot (Spec.gradTri (vsq 1) (vsq 3) (vsq 2) (f 1) (f 3) (f 2)) (Spec.gradTri (vsq 1) (vsq 3) (vsq 2) (g 1) (g 3) (g 2)) := by
  rw [C01.stiff_form vsq tsq nd_sq]
  simp only [sum_tsq, triArea_sq0, triArea_sq1]

example (f : Nat → ℝ) : 0 ≤ Coo.form (Fem.stiffTria vsq tsq) f f := C01.stiff_psd vsq tsq nd_sq f
example (c : ℝ) (i : Nat) : Coo.mulVec (Fem.stiffTria vsq tsq) (fun _ => c) i = 0 := C01.stiff_const_zero vsq tsq nd_sq c i
example (i j : Nat) : Coo.entry (Fem.stiffTria vsq tsq) i j = Coo.entry (Fem.stiffTria vsq tsq) j i :=
  C01.stiff_entry_symm vsq tsq nd_sq i j

/-- re-ordering both triangles (a flip and a rotation) does not change the form -/
example (f g : Nat → ℝ) :
    Coo.form (Fem.stiffTria vsq [(1, 0, 2), (1, 3, 2)]) f g = Coo.form (Fem.stiffTria vsq tsq) f g := by
  have := C01.stiff_form_reorder vsq tsq nd_sq (fun τ => if τ = (0, 1, 2) then C01.swapTri τ else τ)
    (fun τ => by by_cases h : τ = (0, 1, 2) <;> simp [h]) f g
  simpa [tsq, C01.swapTri] using this

/-- the gradient of the hat function of vertex 0 on the unit right triangle is `(−1,−1,0)` … -/
theorem grad_hat0 : Spec.gradTri (vtri 0) (vtri 1) (vtri 2) 1 0 0 = ⟨-1, -1, 0⟩ := by
  unfold Spec.gradTri
  simp only [triN_tri, normSq_ez]
  apply V3.ext' <;> (simp only [vtri, vtx3]; v3_flat; norm_num)
theorem grad_hat1 : Spec.gradTri (vtri 0) (vtri 1) (vtri 2) 0 1 0 = ⟨1, 0, 0⟩ := by
  unfold Spec.gradTri
  simp only [triN_tri, normSq_ez]
  apply V3.ext' <;> (simp only [vtri, vtx3]; v3_flat; norm_num)

/-- … so the stored entries of the one-triangle stiffness matrix are `A₀₁ = −1/2`, `A₀₀ = 1` -/
theorem ex_stiff_entry : Coo.entry (Fem.stiffTria vtri [(0, 1, 2)]) 0 1 = -1 / 2 ∧
    Coo.entry (Fem.stiffTria vtri [(0, 1, 2)]) 0 0 = 1 := by
  constructor
  · rw [Coo.entry_eq_form, C01.stiff_form vtri _ C02.ex_nonDegenTri]
    simp only [List.map_cons, List.map_nil, List.sum_cons, List.sum_nil, triArea_tri, if_true, one_ne_zero, if_false,
      OfNat.ofNat_ne_zero, OfNat.ofNat_ne_one, zero_ne_one, grad_hat0, grad_hat1]
    v3_flat; norm_num
  · rw [Coo.entry_eq_form, C01.stiff_form vtri _ C02.ex_nonDegenTri]
    simp only [List.map_cons, List.map_nil, List.sum_cons, List.sum_nil, triArea_tri, if_true, one_ne_zero, if_false,
      OfNat.ofNat_ne_zero, grad_hat0]
    v3_flat; norm_num

example (f g : Nat → ℝ) : Coo.form (Fem.stiffTet vtet ttet) f g =
    Spec.tetVolume (vtet 0) (vtet 1) (vtet 2) (vtet 3) *
      dot (Spec.gradTet (vtet 0) (vtet 1) (vtet 2) (vtet 3) (f 0) (f 1) (f 2) (f 3))
          (Spec.gradTet (vtet 0) (vtet 1) (vtet 2) (vtet 3) (g 0) (g 1) (g 2) (g 3)) := by
  rw [C01.stiff_form_tet vtet ttet nd_tet]
  simp [ttet]

example (f : Nat → ℝ) : 0 ≤ Coo.form (Fem.stiffTet vtet ttet) f f := C01.stiff_psd_tet vtet ttet nd_tet f

theorem tetVolume_unit : Spec.tetVolume (vtet 0) (vtet 1) (vtet 2) (vtet 3) = 1 / 6 := by
  rw [Spec.tetVolume, tetDet_unit]; norm_num

/-! ### C02 -/

example (x y : Nat → ℝ) : Coo.form (Fem.massTria false vsq tsq) x y =
    Spec.triL2 (1 / 2) (x 0) (x 1) (x 2) (y 0) (y 1) (y 2) + Spec.triL2 (1 / 2) (x 1) (x 3) (x 2) (y 1) (y 3) (y 2) := by
  rw [C02.mass_form vsq tsq nd_sq]
  simp only [sum_tsq, triArea_sq0, triArea_sq1]

/-- on the unit right triangle (area ½, Jacobian 1) the mass form of `x = y = λ₁` is `∫∫ u² = 1/12` -/
example : Coo.form (Fem.massTria false (vtx3 (⟨0, 0, 0⟩ : V3 ℝ) ⟨1, 0, 0⟩ ⟨0, 1, 0⟩) [(0, 1, 2)])
    (fun i => if i = 1 then 1 else 0) (fun i => if i = 1 then 1 else 0) = 1 / 12 := by
  have ha := triArea_tri
  simp only [vtri] at ha
  rw [C02.mass_form_integral _ _ C02.ex_nonDegenTri]
  simp only [List.map_cons, List.map_nil, List.sum_cons, List.sum_nil]
  rw [C02.tri_double_integral, ha]
  norm_num

/-- `mass_total`: the entries of the mass matrix of the unit square sum to its area 1 (either lumping) -/
theorem ex_mass_total (lump : Bool) : Coo.total (Fem.massTria lump vsq tsq) = 1 := by
  rw [C02.mass_total lump vsq tsq nd_sq]
  simp only [sum_tsq, triArea_sq0, triArea_sq1]
  norm_num

theorem key01_mem : (0, 1) ∈ Coo.keys (Fem.massTria false vsq tsq) := by
  rw [C02.massTria_blocks false vsq tsq nd_sq]
  simp [Coo.keys, tsq, C02.triMassBlock, Fem.triBlock]

example : 0 < Coo.entry (Fem.massTria false vsq tsq) 0 1 := C02.mass_entry_pos false vsq tsq nd_sq 0 1 key01_mem

example (i : Nat) : Coo.mulVec (Fem.massTria true vsq tsq) (fun _ => 1) i = Coo.mulVec (Fem.massTria false vsq tsq) (fun _ => 1) i :=
  C02.lump_eq_rowsum vsq tsq nd_sq i

example (lump : Bool) : Fem.massTriaStandalone lump vsq tsq = Fem.massTria lump vsq tsq :=
  C02.standalone_eq_solver lump vsq tsq nd_sq

/-- the lumped mass of the corner `0` of the square is a third of the area of its only triangle -/
example : Coo.mulVec (Fem.massTria true vsq tsq) (fun _ => 1) 0 = 1 / 6 := by
  rw [C02.lumped_row vsq tsq nd_sq]
  simp only [sum_tsq, triArea_sq0, triArea_sq1]
  norm_num

example (x y : Nat → ℝ) : Coo.form (Fem.massTet false vtet ttet) x y =
    Spec.tetL2 (1 / 6) (x 0) (x 1) (x 2) (x 3) (y 0) (y 1) (y 2) (y 3) := by
  rw [C02.mass_form_tet vtet ttet nd_tet]
  simp only [sum_ttet, tetVolume_unit]

/-- `mass_total_tet`: the unit tetrahedron has volume `1/6` -/
theorem ex_mass_total_tet (lump : Bool) : Coo.total (Fem.massTet lump vtet ttet) = 1 / 6 := by
  rw [C02.mass_total_tet lump vtet ttet nd_tet]
  simp only [sum_ttet, tetVolume_unit]

example (i : Nat) : Coo.mulVec (Fem.massTet true vtet ttet) (fun _ => 1) i = Coo.mulVec (Fem.massTet false vtet ttet) (fun _ => 1) i :=
  C02.lump_eq_rowsum_tet vtet ttet nd_tet i

theorem key01_mem_tet : (0, 1) ∈ Coo.keys (Fem.massTet false vtet ttet) := by
  rw [C02.massTet_blocks false vtet ttet nd_tet]
  simp [Coo.keys, ttet, C02.tetMassBlock, Fem.tetBlock]

example : 0 < Coo.entry (Fem.massTet false vtet ttet) 0 1 := C02.mass_entry_pos_tet false vtet ttet nd_tet 0 1 key01_mem_tet

/-! ### C05 -/

/-- path Laplacian on three vertices -/
def pathA : Coo ℝ := [((0, 0), 1), ((0, 1), -1), ((1, 0), -1), ((1, 1), 2), ((1, 2), -1), ((2, 1), -1), ((2, 2), 1)]
/-- identity "mass matrix" -/
def eye3 : Coo ℝ := [((0, 0), 1), ((1, 1), 1), ((2, 2), 1)]

theorem free3 : Poisson.freeIdx 3 [0] = [1, 2] := by decide

/-- `dirichlet_exact`: vertex 0 carries the prescribed value 5 -/
example : C05.xfun 3 [0] [5] [5, 5] 0 = 5 := by
  have := C05.dirichlet_exact 3 [0] [5] [5, 5] (by simp) 0 (by simp)
  simpa using this

theorem reduce3 : Poisson.reduce pathA [1, 2] = [((0, 0), 2), ((0, 1), -1), ((1, 0), -1), ((1, 1), 1)] := by
  rfl

/-- the hypotheses of `interior_eq` are satisfiable: Dirichlet value 5 at vertex 0, zero source, and the explicit
    solution `xs = (5,5)` of the reduced system `[[2,−1],[−1,1]] xs = (5,0)` -/
theorem ex_interior_eq (p : Nat) (hp : p < 2) :
    Coo.mulVec pathA (C05.xfun 3 [0] [5] [5, 5]) ([1, 2][p]'(by simpa using hp)) = 0 := by
  have hp' : p < (Poisson.freeIdx 3 [0]).length := by rw [free3]; simpa using hp
  have hsolve : Coo.mulVec (Poisson.reduce pathA (Poisson.freeIdx 3 [0])) (fun q => ([5, 5] : List ℝ).getD q 0) p
      = Poisson.rhs pathA eye3 (fun _ => 0) (fun _ => 0) (Poisson.scatter [0] [5]) true ((Poisson.freeIdx 3 [0])[p]) := by
    have hpc : p = 0 ∨ p = 1 := by omega
    simp only [free3, reduce3]
    rcases hpc with rfl | rfl
    · simp [Coo.mulVec, Poisson.rhs, Poisson.scatter, pathA, eye3]; norm_num
    · simp [Coo.mulVec, Poisson.rhs, Poisson.scatter, pathA, eye3]
  have := C05.interior_eq pathA eye3 3 (fun _ => 0) (fun _ => 0) [0] [5] [5, 5] (by simp) (by simp)
    (by simp [pathA]) p hp' hsolve
  simp only [free3] at this
  rw [this]
  simp [Coo.mulVec, eye3]

example (i : Nat) :
    Poisson.rhs pathA eye3 (fun j => (j : ℝ) + 2 * 1) (fun j => 0 + 2 * (j : ℝ)) (fun _ => 1 + 2 * 0) true i =
      Poisson.rhs pathA eye3 (fun j => (j : ℝ)) (fun _ => 0) (fun _ => 1) true i +
        2 * Poisson.rhs pathA eye3 (fun _ => 1) (fun j => (j : ℝ)) (fun _ => 0) true i :=
  C05.rhs_linear pathA eye3 _ _ _ _ _ _ 2 true i

/-! ### C06 -/

/-- `triGrad_affine` on the first triangle of the square: the gradient of `x ↦ a·x + b` is the in-plane part of `a` -/
example (a : V3 ℝ) (b : ℝ) :
    DiffGeo.triGrad1 (vsq 0) (vsq 1) (vsq 2) (dot a (vsq 0) + b) (dot a (vsq 1) + b) (dot a (vsq 2) + b) = ⟨a.x, a.y, 0⟩ := by
  rw [C06.triGrad_affine _ _ _ a b (ndln_sq (0, 1, 2) (by simp [tsq])), triN_sq0, normSq_ez]
  v3_flat [V3.ext'_iff]; and_intros <;> ring

example (a : V3 ℝ) (b : ℝ) :
    DiffGeo.tetGrad1 (vtet 0) (vtet 1) (vtet 2) (vtet 3) (dot a (vtet 0) + b) (dot a (vtet 1) + b) (dot a (vtet 2) + b)
      (dot a (vtet 3) + b) = a :=
  C06.tetGrad_affine _ _ _ _ a b (nddet_tet (0, 1, 2, 3) (by simp [ttet]))

example (X0 X1 : V3 ℝ) (f : Nat → ℝ) :
    Coo.form (DiffGeo.triDiv vsq tsq [X0, X1]) f (fun _ => 1) =
      -(1 / 2 * dot X0 (Spec.gradTri (vsq 0) (vsq 1) (vsq 2) (f 0) (f 1) (f 2)) +
        1 / 2 * dot X1 (Spec.gradTri (vsq 1) (vsq 3) (vsq 2) (f 1) (f 3) (f 2))) := by
  rw [C06.triDiv_adjoint vsq tsq [X0, X1] ndln_sq f]
  simp only [tsq, List.zip_cons_cons, List.zip_nil_right, List.map_cons, List.map_nil, List.sum_cons, List.sum_nil,
    triArea_sq0, triArea_sq1, add_zero]

example (f : Nat → ℝ) (i : Nat) :
    Coo.mulVec (DiffGeo.triDiv vsq tsq (DiffGeo.triGrad vsq tsq f)) (fun _ => 1) i = -Coo.mulVec (Fem.stiffTria vsq tsq) f i :=
  C06.triDiv_grad vsq tsq ndln_sq f i

example (X : V3 ℝ) (f : Nat → ℝ) :
    Coo.form (DiffGeo.tetDiv vtet ttet [X]) f (fun _ => 1) =
      -(1 / 6 * dot X (Spec.gradTet (vtet 0) (vtet 1) (vtet 2) (vtet 3) (f 0) (f 1) (f 2) (f 3))) := by
  rw [C06.tetDiv_adjoint vtet ttet [X] nddet_tet f]
  simp only [ttet, List.zip_cons_cons, List.zip_nil_right, List.map_cons, List.map_nil, List.sum_cons, List.sum_nil,
    tetVolume_unit, add_zero]

/-! ### C07 -/

/-- lumped mass `diag(1,2)` on two vertices -/
def massB : Coo ℝ := [((0, 0), 1), ((1, 1), 2)]
/-- the solution of `(B + A) u = (1,0)` with `A` the path Laplacian `C03.exA`: `u = (3/5, 1/5)` -/
noncomputable def heatU : Nat → ℝ := fun i => if i = 0 then 3 / 5 else if i = 1 then 1 / 5 else 0
def heatRhs : Nat → ℝ := fun i => if i = 0 then 1 else 0

theorem exA_const (i : Nat) : Coo.mulVec C03.exA (fun _ => 1) i = 0 := by
  rw [(C03.mulVec_ex _ i).1, sub_self, ite_self, ite_self]

/-- `heat_conservation` with an explicit solution: one backward-Euler step from a unit seed at vertex 0 keeps the
    total heat `1ᵀ B u = 3/5 + 2·1/5 = 1` -/
theorem ex_heat_conservation : Coo.form massB (fun _ => 1) heatU = 1 := by
  have h := C07.heat_conservation 1 C03.exA massB heatU heatRhs 2
    (by simp [C03.exA]) (by simp [massB])
    C03.ex_symm.1 exA_const
    (by intro i hi
        have : i = 0 ∨ i = 1 := by omega
        rcases this with rfl | rfl <;>
          simp [Heat.heatMat, Coo.mulVec, C03.exA, massB, heatU, heatRhs] <;> norm_num)
  rw [h]
  simp [heatRhs]

/-- a 2×2 eigenvector table (rows = vertices), eigenvalues `0, 2` -/
def evT : List (List ℝ) := [[1, 1], [1, -1]]

example : ((Heat.kernel [1 / 2] 1 evT [0, 2] 2).getD 0 []).getD 0 0 = ((Heat.kernel [1 / 2] 0 evT [0, 2] 2).getD 1 []).getD 0 0 :=
  C07.kernel_symm [1 / 2] evT [0, 2] 2 0 1 0 (by simp [evT]) (by simp [evT]) (by simp)

/-- the heat kernel between the two vertices at `t = 1/2`: `1 − e^{−1}` -/
example : ((Heat.kernel [1 / 2] 1 evT [0, 2] 2).getD 0 []).getD 0 0 = 1 - Real.exp (-1) := by
  rw [C07.kernel_entry _ _ _ _ _ _ _ (by simp [evT]) (by simp)]
  simp [evT]
  ring

example : ((Heat.diagonal [1 / 2] [1] evT [0, 2] 2).getD 0 []).getD 0 0 =
    ((Heat.kernel [1 / 2] 1 evT [0, 2] 2).getD 1 []).getD 0 0 := by
  have := C07.diagonal_eq_kernel [1 / 2] [1] evT [0, 2] 2 0 0 (by simp) (by simp [evT]) (by simp)
  simpa using this

/-! ### C13 -/

/-- `heron_eq_cross` on the 3-4-5 triangle: both formulas give area 6 -/
theorem ex_heron_345 : Measures.heron (⟨0, 0, 0⟩ : V3 ℝ) ⟨3, 0, 0⟩ ⟨0, 4, 0⟩ = 6 := by
  rw [C13.heron_eq_cross, Spec.triArea]
  have : normSq (Spec.triN (⟨0, 0, 0⟩ : V3 ℝ) ⟨3, 0, 0⟩ ⟨0, 4, 0⟩) = 144 := by
    simp only [Spec.triN]; v3_flat; norm_num
  rw [this, show (144 : ℝ) = 12 * 12 by norm_num, Real.sqrt_mul_self (by norm_num)]; norm_num

/-- the equilateral triangle `e_x, e_y, e_z` has quality exactly 1 -/
theorem ex_quality_equilateral : Measures.triQuality (⟨1, 0, 0⟩ : V3 ℝ) ⟨0, 1, 0⟩ ⟨0, 0, 1⟩ = 1 := by
  have hN : 0 < normSq (cross ((⟨0, 1, 0⟩ : V3 ℝ) - ⟨1, 0, 0⟩) (⟨0, 0, 1⟩ - ⟨1, 0, 0⟩)) := by v3_flat; norm_num
  refine (C13.quality_range _ _ _ hN).2.2.mpr ⟨?_, ?_⟩ <;> (v3_flat; norm_num)

theorem normSq_cross_unit : normSq (cross ((⟨1, 0, 0⟩ : V3 ℝ) - ⟨0, 0, 0⟩) (⟨0, 1, 0⟩ - ⟨0, 0, 0⟩)) = 1 :=
  (congrArg normSq Spec.triN_unit).trans normSq_ez

/-- the unit right triangle has quality strictly between 0 and 1 -/
theorem ex_quality_right : 0 < Measures.triQuality (⟨0, 0, 0⟩ : V3 ℝ) ⟨1, 0, 0⟩ ⟨0, 1, 0⟩ ∧
    Measures.triQuality (⟨0, 0, 0⟩ : V3 ℝ) ⟨1, 0, 0⟩ ⟨0, 1, 0⟩ < 1 := by
  obtain ⟨h1, h2, h3⟩ := C13.quality_range _ _ _ (normSq_cross_unit ▸ one_pos)
  refine ⟨h1, lt_of_le_of_ne h2 ?_⟩
  intro h
  have := (h3.mp h).1
  revert this
  v3_flat; norm_num

theorem ndN_tri : C13.NonDegenN (⟨0, 0, 0⟩ : V3 ℝ) ⟨1, 0, 0⟩ ⟨0, 1, 0⟩ := by
  unfold C13.NonDegenN
  rw [normSq_cross_unit, Real.sqrt_one]; exact eps_lt_one

/-- `triNormal_spec`: the unit right triangle is not degenerate; its normal is `e_z` -/
example : Measures.triNormal (⟨0, 0, 0⟩ : V3 ℝ) ⟨1, 0, 0⟩ ⟨0, 1, 0⟩ = ⟨0, 0, 1⟩ := by
  rw [C13.triNormal_eq _ _ _ ndN_tri, normSq_cross_unit, Real.sqrt_one]
  apply V3.ext' <;> (v3_flat; norm_num)

example : normSq (Measures.triNormal (⟨0, 0, 0⟩ : V3 ℝ) ⟨1, 0, 0⟩ ⟨0, 1, 0⟩) = 1 := (C13.triNormal_spec _ _ _ ndN_tri).1

/-- `area()` of the unit square is 1 … -/
theorem ex_area_sq : Measures.area vsq tsq = 1 := by
  rw [C13.area_eq_sum]
  simp only [sum_tsq, triArea_sq0, triArea_sq1]
  norm_num

/-- … and `area_similarity` with the scaling `v ↦ 3v` gives 9 -/
theorem ex_area_scaled : Measures.area (fun i => smul 3 (vsq i)) tsq = 9 := by
  rw [C13.area_similarity (scale_isSimilarity 3) vsq tsq, ex_area_sq]; norm_num

/-! ### C19b: the flow step on the square -/

/-- all hypotheses of `flow_system_pd` hold for the square, the path-free stiffness of the square itself and any
    function that does not vanish at vertex 3 -/
example (f : Nat → ℝ) (hf : f 3 ≠ 0) : 0 < Coo.form (Flow.stepMatrix (1 / 1000) (Fem.stiffTria vsq tsq) vsq tsq) f f :=
  C19.flow_system_pd _ _ vsq tsq nd_sq (fun g => C01.stiff_psd vsq tsq nd_sq g) (by norm_num) f
    ⟨(1, 3, 2), by simp [tsq], Or.inr (Or.inl hf)⟩

/-- constants are fixed points of the flow step (`flow_step_fixed_model` with C01's `stiff_const_zero`) -/
example (c : ℝ) (i : Nat) :
    Coo.mulVec (Flow.stepMatrix (1 / 1000) (Fem.stiffTria vsq tsq) vsq tsq) (fun _ => c) i =
      Coo.mulVec (Fem.massTriaStandalone true vsq tsq) (fun _ => c) i :=
  C19.flow_step_fixed_model _ _ vsq tsq _ (fun i => C01.stiff_const_zero vsq tsq nd_sq c i) i

end LapyVerif.Props.Examples
