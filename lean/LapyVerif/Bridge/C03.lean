import LapyVerif.Generated.Eigs
import LapyVerif.Props.C03
/-
  Bridge of C03: the shift constant and call structure of `Solver.eigs` extracted from the source.
-/
namespace LapyVerif.Bridge

/-- the shift is a negative constant (so `A − σB` is positive definite by `C03.shift_pd`) -/
theorem eigs_sigma_neg : Gen.Eigs.sigmaFound = true ∧ Gen.Eigs.sigmaNum < 0 ∧ 0 < Gen.Eigs.sigmaDen := by decide

/-- the matrix factorised is `A − σB`, and ARPACK is called in shift-invert mode with that factorisation as `OPinv` -/
theorem eigs_call_shape :
    Gen.Eigs.factorised = "self.stiffness - sigma * self.mass" ∧
    Gen.Eigs.eigshCall = "eigsh(self.stiffness, k, self.mass, sigma=sigma, OPinv=op_inv)" ∧
    Gen.Eigs.opInv = "LinearOperator(matvec=lu.solve, shape=self.stiffness.shape, dtype=self.stiffness.dtype)" :=
  ⟨rfl, rfl, rfl⟩

/-- the driver's shift matrix is the one the theorems are about -/
theorem shiftMat_eq (σ : ℝ) (A B : Coo ℝ) : Spectral.shiftMat σ A B = Props.C03.shiftMat σ A B := rfl

end LapyVerif.Bridge
