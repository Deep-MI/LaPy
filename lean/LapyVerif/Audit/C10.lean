import LapyVerif.Props.C10
import LapyVerif.Bridge.TriOrient
/- axiom audit of C10 (`orient_`) -/
#print axioms LapyVerif.Props.C10.swap01_vertexSet
#print axioms LapyVerif.Props.C10.swap12_vertexSet
#print axioms LapyVerif.Props.C10.consistent_flipBy
#print axioms LapyVerif.Props.C10.consistent_preserves
#print axioms LapyVerif.Props.C10.consistent_vertexSet
#print axioms LapyVerif.Props.C10.orient_shape
#print axioms LapyVerif.Props.C10.orient_preserves
#print axioms LapyVerif.Props.C10.orient_vertexSet
#print axioms LapyVerif.Props.C10.orient_count
#print axioms LapyVerif.Props.C10.not_same_and_reversed
#print axioms LapyVerif.Props.C10.consistent_of_oriented
#print axioms LapyVerif.Measures.volumeSum_swap12
#print axioms LapyVerif.OrientLemmas.isClosed_map_swap12
#print axioms LapyVerif.OrientLemmas.isOriented_map_swap12
#print axioms LapyVerif.Props.C10.orient_volume_nonneg
#print axioms LapyVerif.Props.C10.orient_idempotent_of_oriented
#print axioms LapyVerif.Props.C10.orient_closed_oriented
#print axioms LapyVerif.Props.C10.orient_idempotent_closed
#print axioms LapyVerif.Props.C10.not_oriented_of_three
#print axioms LapyVerif.Props.C10.nonmanifold_rejected
#print axioms LapyVerif.Props.C10.orient_nonmanifold_rejected
#print axioms LapyVerif.Props.C10.pair_sign
#print axioms LapyVerif.Props.C10.pair_complete
#print axioms LapyVerif.Props.C10.flood_inv_partial
#print axioms LapyVerif.Props.C10.flood_progress
#print axioms LapyVerif.Props.C10.flood_terminates_of_column
#print axioms LapyVerif.Props.C10.flood_terminates_partial
#print axioms LapyVerif.Props.C10.consistent_oriented_of_column
#print axioms LapyVerif.Props.C10.consistent_oriented_partial
#print axioms LapyVerif.Props.C10.consistent_oriented_of_three
#print axioms LapyVerif.Props.C10.orient_spec_partial
#print axioms LapyVerif.Props.C10.orient_idempotent_partial
#print axioms LapyVerif.Props.C10.edgeManifold_of_counts
#print axioms LapyVerif.OrientFlood.flood_spec
#print axioms LapyVerif.OrientMesh.consistent_oriented_core
#print axioms LapyVerif.OrientFirstColumn.column0_ok
#print axioms LapyVerif.Bridge.tri_orient_volA
#print axioms LapyVerif.Bridge.tri_orient_consistentA
#print axioms LapyVerif.Bridge.tri_orient_A
#print axioms LapyVerif.Bridge.tri_orient_volB
#print axioms LapyVerif.Bridge.tri_orient_consistentB
#print axioms LapyVerif.Bridge.tri_orient_B
#print axioms LapyVerif.Bridge.census_TriOrient_pcACount
#print axioms LapyVerif.Bridge.census_TriOrient_pcBCount
#print axioms LapyVerif.OrientMesh.orientedBy_iff
#print axioms LapyVerif.OrientMesh.pair_anatomy
#print axioms LapyVerif.OrientMesh.consistent_eq
#print axioms LapyVerif.Props.C10.orient_ok
#print axioms LapyVerif.OrientFlood.mem_addVec_disjoint
#print axioms LapyVerif.OrientFlood.tmatEntry_pos
