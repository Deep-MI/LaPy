import LapyVerif.Props.C02
import LapyVerif.Props.C02b
import LapyVerif.Bridge.Fem
/- axiom audit of C02 -/
#print axioms LapyVerif.Props.C02.mass_form
#print axioms LapyVerif.Spec.triL2_eq_midpoint
#print axioms LapyVerif.Props.C02.mass_form_symm
#print axioms LapyVerif.Props.C02.mass_entry_symm
#print axioms LapyVerif.Props.C02.mass_total
#print axioms LapyVerif.Props.C02.mass_entry_pos
#print axioms LapyVerif.Props.C02.lumped_diagonal
#print axioms LapyVerif.Props.C02.lump_eq_rowsum
#print axioms LapyVerif.Props.C02.lumped_row
#print axioms LapyVerif.Props.C02.standalone_eq_solver
#print axioms LapyVerif.Props.C02.mass_form_tet
#print axioms LapyVerif.Props.C02.mass_form_symm_tet
#print axioms LapyVerif.Props.C02.mass_total_tet
#print axioms LapyVerif.Props.C02.mass_entry_pos_tet
#print axioms LapyVerif.Props.C02.lump_eq_rowsum_tet
#print axioms LapyVerif.Props.C02.form_triMassBlock
#print axioms LapyVerif.Props.C02.form_tetMassBlock
#print axioms LapyVerif.Bridge.fem_tria_B
#print axioms LapyVerif.Bridge.fem_tria_BL
#print axioms LapyVerif.Bridge.fem_mass_B
#print axioms LapyVerif.Bridge.fem_mass_BL
#print axioms LapyVerif.Bridge.fem_aniso_B
#print axioms LapyVerif.Bridge.fem_tet_B
#print axioms LapyVerif.Bridge.fem_tet_BL
#print axioms LapyVerif.Props.C02.integral_polynomial
#print axioms LapyVerif.Props.C02.integral_triangle
#print axioms LapyVerif.Props.C02.tri_double_integral
#print axioms LapyVerif.Props.C02.tri_moments
#print axioms LapyVerif.Props.C02.tri_measure
#print axioms LapyVerif.Props.C02.triL2_eq_integral
#print axioms LapyVerif.Props.C02.mass_form_integral
#print axioms LapyVerif.Props.C02.integral_simplex_mid
#print axioms LapyVerif.Props.C02.integral_bernstein4
#print axioms LapyVerif.Props.C02.tet_mid
#print axioms LapyVerif.Props.C02.tet_triple_integral
#print axioms LapyVerif.Props.C02.tetL2_eq_integral
#print axioms LapyVerif.Props.C02.tet_moments
#print axioms LapyVerif.Props.C02.tet_measure
#print axioms LapyVerif.Props.C02.mass_form_integral_tet
#print axioms LapyVerif.Props.C02.ex_nonDegenTri
#print axioms LapyVerif.Bridge.census_FemTria_pcCount
#print axioms LapyVerif.Bridge.census_FemTriaMass_pcCount
#print axioms LapyVerif.Bridge.census_FemTriaAniso_pcCount
#print axioms LapyVerif.Bridge.census_FemTet_pcCount
