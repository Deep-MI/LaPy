import LapyVerif.Bridge.Measures2
/- axiom audit of the centroid / normalize_ bridges -/
#print axioms LapyVerif.Bridge.meas_centroid
#print axioms LapyVerif.Props.C19.normalize_eq
#print axioms LapyVerif.Bridge.gen_normalized
#print axioms LapyVerif.Bridge.meas_normalized
