import LapyVerif.Props.C01
import LapyVerif.Model.DiffGeo
/-
  C06 — gradient and divergence are exact on linear data and mutually adjoint.
  Model: `DiffGeo.*` (tied to `lapy/diffgeo.py` by `Bridge/DiffGeo.lean`).  All statements hold for every vertex map,
  every element list and every per-element vector field, under the complement of the kernels' own degeneracy guard.
  `tet_compute_divergence` has no guard; the tetrahedral divergence theorems carry `NonDegenDet`, the guard of the
  gradient, because their proofs divide by the determinant.  The dispatch of `compute_gradient` / `compute_divergence`
  on the mesh type (`ValueError` otherwise) is not a theorem of this file: it is observed on the code by
  `Bridge.dispatch_facts`.

  A divergence is a one-column matrix of triplets `((i, 0), value)`.  The statements read its `i`-th component as
  `Coo.mulVec · (fun _ => 1) i` and the pairing `Σ_i f_i div(X)_i` as `Coo.form · f (fun _ => 1)`, because the
  assembly lemmas are about `form`; for a one-column matrix this component is the stored entry `Coo.entry · i 0`
  (`entry_col0`).  Worked instances are in `Props/Examples.lean`.
-/
namespace LapyVerif.Props.C06
open V3

/-- complement of the guard `ln < eps` of the triangle kernels -/
def NonDegenLn (vtx : Nat → V3 ℝ) (ts : List Tri) : Prop :=
  ∀ τ ∈ ts, ¬ (Real.sqrt (normSq (Spec.triN (vtx τ.1) (vtx τ.2.1) (vtx τ.2.2))) < epsK)

/-- the normal as the triangle kernels write it (`DiffGeo.triNormalLen`) is `Spec.triN` -/
theorem triNormal_cross_eq (v0 v1 v2 : V3 ℝ) : cross (v1 - v0) (-(v0 - v2)) = Spec.triN v0 v1 v2 := by
  rw [V3.neg_sub, Spec.triN]

theorem triNormalLen_eq (v0 v1 v2 : V3 ℝ) (h : ¬ (Real.sqrt (normSq (Spec.triN v0 v1 v2)) < epsK)) :
    DiffGeo.triNormalLen v0 v1 v2 = (Spec.triN v0 v1 v2, Real.sqrt (normSq (Spec.triN v0 v1 v2))) := by
  simp only [DiffGeo.triNormalLen, triNormal_cross_eq, DiffGeo.guard1, sqrt_real, if_neg h]

theorem pos_of_guard {N : ℝ} (h : ¬ (Real.sqrt N < epsK)) : 0 < N := Real.sqrt_pos.mp (pos_of_not_lt_epsK h)

/-- **the triangle gradient is the gradient of the linear interpolant**, whatever the winding of the triangle -/
theorem triGrad_eq_spec (v0 v1 v2 : V3 ℝ) (f0 f1 f2 : ℝ) (h : ¬ (Real.sqrt (normSq (Spec.triN v0 v1 v2)) < epsK)) :
    DiffGeo.triGrad1 v0 v1 v2 f0 f1 f2 = Spec.gradTri v0 v1 v2 f0 f1 f2 := by
  unfold DiffGeo.triGrad1
  rw [triNormalLen_eq v0 v1 v2 h]
  -- the two factors `1/|n|` of the code make the `1/|n|²` of the specification
  simp only [Spec.gradTri, cross_smul_left, V3.smul_smul, Nat.cast_one, div_mul_div_comm, one_mul,
    Real.mul_self_sqrt (pos_of_guard h).le]

theorem triGrad_char (v0 v1 v2 : V3 ℝ) (f0 f1 f2 : ℝ) (h : ¬ (Real.sqrt (normSq (Spec.triN v0 v1 v2)) < epsK)) :
    let g := DiffGeo.triGrad1 v0 v1 v2 f0 f1 f2
    dot g (v1 - v0) = f1 - f0 ∧ dot g (v2 - v0) = f2 - f0 ∧ dot g (Spec.triN v0 v1 v2) = 0 := by
  simp only [triGrad_eq_spec v0 v1 v2 f0 f1 f2 h]
  exact Spec.gradTri_char v0 v1 v2 f0 f1 f2 (pos_of_guard h).ne'

theorem triGrad_tangent (v0 v1 v2 : V3 ℝ) (f0 f1 f2 : ℝ) (h : ¬ (Real.sqrt (normSq (Spec.triN v0 v1 v2)) < epsK)) :
    dot (DiffGeo.triGrad1 v0 v1 v2 f0 f1 f2) (Spec.triN v0 v1 v2) = 0 :=
  (triGrad_char v0 v1 v2 f0 f1 f2 h).2.2

/-- for an affine function `a·x + b` the gradient is the projection of `a` onto the triangle plane -/
theorem triGrad_affine (v0 v1 v2 a : V3 ℝ) (b : ℝ) (h : ¬ (Real.sqrt (normSq (Spec.triN v0 v1 v2)) < epsK)) :
    DiffGeo.triGrad1 v0 v1 v2 (dot a v0 + b) (dot a v1 + b) (dot a v2 + b)
      = a - smul (dot a (Spec.triN v0 v1 v2) / normSq (Spec.triN v0 v1 v2)) (Spec.triN v0 v1 v2) := by
  rw [triGrad_eq_spec v0 v1 v2 _ _ _ h]
  exact Spec.gradTri_affine v0 v1 v2 a b (pos_of_guard h).ne'

/-- complement of the guard `|vol| < eps` of the tetra gradient -/
def NonDegenDet (vtx : Nat → V3 ℝ) (ts : List Tet) : Prop :=
  ∀ τ ∈ ts, ¬ (|Spec.tetDet (vtx τ.1) (vtx τ.2.1) (vtx τ.2.2.1) (vtx τ.2.2.2)| < epsK)

theorem tetDet_ne_zero_of_guard {D : ℝ} (h : ¬ (|D| < epsK)) : D ≠ 0 := by
  intro h0; rw [h0, abs_zero] at h; exact h epsK_pos

theorem tetGradVol_eq (v0 v1 v2 v3 : V3 ℝ) (h : ¬ (|Spec.tetDet v0 v1 v2 v3| < epsK)) :
    DiffGeo.tetGradVol v0 v1 v2 v3 = - Spec.tetDet v0 v1 v2 v3 := by
  have h' : ¬ (|dot (v3 - v0) (cross (v1 - v0) (v0 - v2))| < epsK) := by rw [Spec.tetDet_code, abs_neg]; exact h
  simp only [DiffGeo.tetGradVol, abs_real]
  rw [if_neg h', Spec.tetDet_code]

/-- **the tetra gradient is the gradient of the linear interpolant for either orientation of the element** -/
theorem tetGrad_eq_spec (v0 v1 v2 v3 : V3 ℝ) (f0 f1 f2 f3 : ℝ) (h : ¬ (|Spec.tetDet v0 v1 v2 v3| < epsK)) :
    DiffGeo.tetGrad1 v0 v1 v2 v3 f0 f1 f2 f3 = Spec.gradTet v0 v1 v2 v3 f0 f1 f2 f3 := by
  unfold DiffGeo.tetGrad1
  rw [tetGradVol_eq v0 v1 v2 v3 h]
  simp only [Spec.gradTet]
  generalize Spec.tetDet v0 v1 v2 v3 = D
  -- the code's edges from the three edges at `v0`; its three cross products are the negatives of the spec's
  rw [← V3.neg_sub v2 v0, sub_eq_sub_sub_sub v0 v1 v3, sub_eq_sub_sub_sub v0 v2 v3]
  generalize v1 - v0 = a
  generalize v2 - v0 = b
  generalize v3 - v0 = c
  rw [cross_neg_left, cross_sub_self, ← V3.neg_sub a c, cross_neg_right, cross_sub_self, V3.neg_neg, cross_anticomm b a]
  generalize cross b c = X
  generalize cross c a = Y
  generalize cross a b = Z
  refine ext_dot fun w => ?_
  simp only [dot_smul_right, dot_add_right, dot_neg_right]; ring

theorem tetGrad_char (v0 v1 v2 v3 : V3 ℝ) (f0 f1 f2 f3 : ℝ) (h : ¬ (|Spec.tetDet v0 v1 v2 v3| < epsK)) :
    let g := DiffGeo.tetGrad1 v0 v1 v2 v3 f0 f1 f2 f3
    dot g (v1 - v0) = f1 - f0 ∧ dot g (v2 - v0) = f2 - f0 ∧ dot g (v3 - v0) = f3 - f0 := by
  have hd : Spec.tetDet v0 v1 v2 v3 ≠ 0 := tetDet_ne_zero_of_guard h
  simp only [tetGrad_eq_spec v0 v1 v2 v3 f0 f1 f2 f3 h]
  exact Spec.gradTet_char v0 v1 v2 v3 f0 f1 f2 f3 hd

/-- for an affine function `a·x + b` the tetra gradient is `a` — for positively AND negatively oriented elements -/
theorem tetGrad_affine (v0 v1 v2 v3 a : V3 ℝ) (b : ℝ) (h : ¬ (|Spec.tetDet v0 v1 v2 v3| < epsK)) :
    DiffGeo.tetGrad1 v0 v1 v2 v3 (dot a v0 + b) (dot a v1 + b) (dot a v2 + b) (dot a v3 + b) = a := by
  have hd : Spec.tetDet v0 v1 v2 v3 ≠ 0 := tetDet_ne_zero_of_guard h
  rw [tetGrad_eq_spec v0 v1 v2 v3 _ _ _ _ h]
  symm
  apply Spec.gradTet_unique v0 v1 v2 v3 _ _ _ _ hd <;> (rw [dot_sub_right]; ring)

/-- the edge-normal variant computes the same three values, for every `X`: `eₖ × n` expanded by `a×(b×c) = (a·c)b − (a·b)c`
    is the cotangent-weighted edge combination -/
theorem triDiv2_eq_triDiv1 (v0 v1 v2 X : V3 ℝ) (h : ¬ (Real.sqrt (normSq (Spec.triN v0 v1 v2)) < epsK)) :
    DiffGeo.triDiv2_1 v0 v1 v2 X = DiffGeo.triDiv1 v0 v1 v2 X := by
  have hs0 := (pos_of_not_lt_epsK h).ne'
  simp only [DiffGeo.triDiv2_1, DiffGeo.triDiv1]
  rw [triNormalLen_eq v0 v1 v2 h]
  simp only [Spec.triN] at hs0 ⊢
  rw [sub_eq_sub_sub_sub v0 v1 v2, ← V3.neg_sub v2 v0]
  generalize v1 - v0 = a at hs0 ⊢
  generalize v2 - v0 = b at hs0 ⊢
  generalize Real.sqrt (normSq (cross a b)) = s at hs0 ⊢
  simp only [cross_smul_right, cross_cross_right, dot_sub_left, dot_sub_right, dot_neg_left, dot_neg_right,
    dot_smul_left, dot_comm b a, Prod.mk.injEq, Nat.cast_one]
  and_intros <;> (field_simp; ring)

/-- per triangle: `½ Σ_k f_k x_k = − area · X·∇f` for EVERY vector `X` (only its tangential part enters either side):
    in the edge-normal form the left side is `(Σ f_k e_k × n)·X / 2|n|` and `∇f = n × Σ f_k e_k / |n|²` -/
theorem triDiv1_adjoint (v0 v1 v2 X : V3 ℝ) (f0 f1 f2 : ℝ) (h : ¬ (Real.sqrt (normSq (Spec.triN v0 v1 v2)) < epsK)) :
    let x := DiffGeo.triDiv1 v0 v1 v2 X
    f0 * (DiffGeo.half * x.1) + f1 * (DiffGeo.half * x.2.1) + f2 * (DiffGeo.half * x.2.2)
      = - (Spec.triArea v0 v1 v2 * dot X (Spec.gradTri v0 v1 v2 f0 f1 f2)) := by
  have hs := pos_of_not_lt_epsK h
  have hN := Real.mul_self_sqrt (Real.sqrt_pos.mp hs).le
  rw [← triDiv2_eq_triDiv1 v0 v1 v2 X h]
  simp only [DiffGeo.triDiv2_1, triNormalLen_eq v0 v1 v2 h, Spec.triArea, Spec.gradTri, DiffGeo.half]
  generalize Spec.triN v0 v1 v2 = n at hs hN ⊢
  generalize normSq n = N at hs hN ⊢
  generalize Real.sqrt N = s at hs hN ⊢
  subst hN
  have hs0 := hs.ne'
  -- `(eₖ × n)·X` on the left meets `X·(n × eₖ)` on the right through `cross_anticomm n` and `dot_comm X`
  rw [dot_comm X]
  simp only [cross_smul_right, cross_anticomm n, cross_add_left, cross_smul_left, dot_add_left, dot_neg_left,
    dot_smul_left, Nat.cast_one, Nat.cast_ofNat]
  field_simp

/-- **Σ_i f_i div(X)_i = − Σ_τ area(τ) X_τ·∇_τ f** -/
theorem triDiv_adjoint (vtx : Nat → V3 ℝ) (ts : List Tri) (Xs : List (V3 ℝ)) (h : NonDegenLn vtx ts) (f : Nat → ℝ) :
    Coo.form (DiffGeo.triDiv vtx ts Xs) f (fun _ => 1) =
      - ((ts.zip Xs).map fun p => Spec.triArea (vtx p.1.1) (vtx p.1.2.1) (vtx p.1.2.2) *
          dot p.2 (Spec.gradTri (vtx p.1.1) (vtx p.1.2.1) (vtx p.1.2.2) (f p.1.1) (f p.1.2.1) (f p.1.2.2))).sum := by
  unfold DiffGeo.triDiv
  rw [List.sum_neg, List.map_map]
  refine Coo.form_flatten_map (ts.zip Xs) _ _ f _ fun p hp => Eq.trans ?_
    (triDiv1_adjoint (vtx p.1.1) (vtx p.1.2.1) (vtx p.1.2.2) p.2 (f p.1.1) (f p.1.2.1) (f p.1.2.2) (h p.1 (List.of_mem_zip hp).1))
  -- the block of one element, with the model's `let` pattern evaluated, summed triplet by triplet
  simp only [Coo.form, List.map, List.sum_cons, List.sum_nil, mul_one, add_zero, add_assoc]

/-- the divergence of any field is orthogonal to every `χ` that is constant on each triangle (its gradient vanishes) -/
theorem triDiv_orth_const (vtx : Nat → V3 ℝ) (ts : List Tri) (Xs : List (V3 ℝ)) (h : NonDegenLn vtx ts) (χ : Nat → ℝ)
    (hχ : ∀ τ ∈ ts, χ τ.1 = χ τ.2.1 ∧ χ τ.2.1 = χ τ.2.2) :
    Coo.form (DiffGeo.triDiv vtx ts Xs) χ (fun _ => 1) = 0 := by
  rw [triDiv_adjoint vtx ts Xs h, neg_eq_zero]
  refine List.sum_eq_zero (List.forall_mem_map.2 fun p hp => ?_)
  obtain ⟨e1, e2⟩ := hχ p.1 (List.of_mem_zip hp).1
  rw [← e2, ← e1, C01.gradTri_const, dot_zero_right, mul_zero]

theorem triDiv_sum_zero (vtx : Nat → V3 ℝ) (ts : List Tri) (Xs : List (V3 ℝ)) (h : NonDegenLn vtx ts) :
    Coo.total (DiffGeo.triDiv vtx ts Xs) = 0 :=
  (Coo.total_eq_form _).trans (triDiv_orth_const vtx ts Xs h _ fun _ _ => ⟨rfl, rfl⟩)

/-- the two triangle divergences are the same matrix of triplets, for every field -/
theorem triDiv2_eq_triDiv (vtx : Nat → V3 ℝ) (ts : List Tri) (Xs : List (V3 ℝ)) (h : NonDegenLn vtx ts) :
    DiffGeo.triDiv2 vtx ts Xs = DiffGeo.triDiv vtx ts Xs := by
  unfold DiffGeo.triDiv2 DiffGeo.triDiv
  congr 1
  apply List.map_congr_left
  intro p hp
  obtain ⟨⟨t0, t1, t2⟩, X⟩ := p
  have hτ : (t0, t1, t2) ∈ ts := (List.of_mem_zip hp).1
  simp only [triDiv2_eq_triDiv1 _ _ _ X (h _ hτ)]

theorem nondegenTri_of_ln (vtx : Nat → V3 ℝ) (ts : List Tri) (h : NonDegenLn vtx ts) : NonDegenTri vtx ts := by
  intro τ hτ
  have h1 := not_lt.mp (h τ hτ)
  rw [FemTri.triVol_eq, Spec.triArea]
  have h0 : 0 ≤ Real.sqrt (normSq (Spec.triN (vtx τ.1) (vtx τ.2.1) (vtx τ.2.2))) := Real.sqrt_nonneg _
  apply not_lt.mpr
  linarith

/-- **div(grad f) = −A f**: row by row, with `A` the stiffness matrix of C01 -/
theorem triDiv_grad (vtx : Nat → V3 ℝ) (ts : List Tri) (h : NonDegenLn vtx ts) (f : Nat → ℝ) (i : Nat) :
    Coo.mulVec (DiffGeo.triDiv vtx ts (DiffGeo.triGrad vtx ts f)) (fun _ => 1) i
      = - Coo.mulVec (Fem.stiffTria vtx ts) f i := by
  rw [Coo.mulVec_eq_form, Coo.mulVec_eq_form, triDiv_adjoint vtx ts _ h,
    C01.stiff_form vtx ts (nondegenTri_of_ln vtx ts h)]
  congr 1
  unfold DiffGeo.triGrad
  rw [zip_map_self_map]
  exact congrArg List.sum (List.map_congr_left fun τ hτ => by rw [triGrad_eq_spec _ _ _ _ _ _ (h τ hτ), dot_comm])

theorem sgn_neg_det (D : ℝ) (hD : D ≠ 0) : DiffGeo.sgn (-D) * D = -|D| := by
  unfold DiffGeo.sgn
  rcases lt_or_gt_of_ne hD with h | h
  · have h1 : ¬ (-D < 0) := by linarith
    have h2 : (0 : ℝ) < -D := by linarith
    rw [if_neg h1, if_pos h2, abs_of_neg h]; push_cast; ring
  · have h1 : -D < 0 := by linarith
    rw [if_pos h1, abs_of_pos h]; push_cast; ring

/-- per tetrahedron: `−(1/6) Σ_k f_k x_k = − vol · X·∇f`, for either orientation -/
theorem tetDiv1_adjoint (v0 v1 v2 v3 X : V3 ℝ) (f0 f1 f2 f3 : ℝ) (hd : Spec.tetDet v0 v1 v2 v3 ≠ 0) :
    let x := DiffGeo.tetDiv1 v0 v1 v2 v3 X
    let c : ℝ := -(((1 : Nat) : ℝ) / ((6 : Nat) : ℝ))
    f0 * (c * x.1) + f1 * (c * x.2.1) + f2 * (c * x.2.2.1) + f3 * (c * x.2.2.2)
      = - (Spec.tetVolume v0 v1 v2 v3 * dot X (Spec.gradTet v0 v1 v2 v3 f0 f1 f2 f3)) := by
  intro x c
  simp only [x, c, DiffGeo.tetDiv1, Spec.tetVolume, Spec.gradTet, Spec.tetDet] at hd ⊢
  -- with the edges `a b c` at `v0` the four face normals are `(b−a)×(c−a) = a×b + b×c + c×a`, `c×b`, `a×c`, `b×a`,
  -- and the orientation sign turns `det` into `−|det|`
  rw [sub_eq_sub_sub_sub v0 v1 v2, sub_eq_sub_sub_sub v0 v1 v3]
  generalize v1 - v0 = a at hd ⊢
  generalize v2 - v0 = b at hd ⊢
  generalize v3 - v0 = c at hd ⊢
  rw [cross_sub_sub, cross_anticomm c b, cross_anticomm a c, cross_anticomm b a, dot_neg_right, dot_cross_rot c a b]
  have hsg := sgn_neg_det _ hd
  generalize dot a (cross b c) = D at hd hsg ⊢
  generalize DiffGeo.sgn (-D) = σ at hsg ⊢
  rw [show |D| = -(σ * D) by rw [hsg]; ring, dot_comm X]
  simp only [dot_smul_left, dot_add_left, dot_neg_left]
  push_cast
  field_simp
  ring

/-- **Σ_i f_i div(X)_i = − Σ_τ vol(τ) X_τ·∇_τ f** on tetrahedral meshes of any (mixed) orientation -/
theorem tetDiv_adjoint (vtx : Nat → V3 ℝ) (ts : List Tet) (Xs : List (V3 ℝ)) (h : NonDegenDet vtx ts) (f : Nat → ℝ) :
    Coo.form (DiffGeo.tetDiv vtx ts Xs) f (fun _ => 1) =
      - ((ts.zip Xs).map fun p => Spec.tetVolume (vtx p.1.1) (vtx p.1.2.1) (vtx p.1.2.2.1) (vtx p.1.2.2.2) *
          dot p.2 (Spec.gradTet (vtx p.1.1) (vtx p.1.2.1) (vtx p.1.2.2.1) (vtx p.1.2.2.2)
            (f p.1.1) (f p.1.2.1) (f p.1.2.2.1) (f p.1.2.2.2))).sum := by
  unfold DiffGeo.tetDiv
  rw [List.sum_neg, List.map_map]
  refine Coo.form_flatten_map (ts.zip Xs) _ _ f _ fun p hp => Eq.trans ?_
    (tetDiv1_adjoint (vtx p.1.1) (vtx p.1.2.1) (vtx p.1.2.2.1) (vtx p.1.2.2.2) p.2 (f p.1.1) (f p.1.2.1) (f p.1.2.2.1)
      (f p.1.2.2.2) (tetDet_ne_zero_of_guard (h p.1 (List.of_mem_zip hp).1)))
  simp only [Coo.form, List.map, List.sum_cons, List.sum_nil, mul_one, add_zero, add_assoc]

theorem tetDiv_orth_const (vtx : Nat → V3 ℝ) (ts : List Tet) (Xs : List (V3 ℝ)) (h : NonDegenDet vtx ts) (χ : Nat → ℝ)
    (hχ : ∀ τ ∈ ts, χ τ.1 = χ τ.2.1 ∧ χ τ.1 = χ τ.2.2.1 ∧ χ τ.1 = χ τ.2.2.2) :
    Coo.form (DiffGeo.tetDiv vtx ts Xs) χ (fun _ => 1) = 0 := by
  rw [tetDiv_adjoint vtx ts Xs h, neg_eq_zero]
  refine List.sum_eq_zero (List.forall_mem_map.2 fun p hp => ?_)
  obtain ⟨e1, e2, e3⟩ := hχ p.1 (List.of_mem_zip hp).1
  rw [← e1, ← e2, ← e3, C01.gradTet_const, dot_zero_right, mul_zero]

theorem tetDiv_sum_zero (vtx : Nat → V3 ℝ) (ts : List Tet) (Xs : List (V3 ℝ)) (h : NonDegenDet vtx ts) :
    Coo.total (DiffGeo.tetDiv vtx ts Xs) = 0 :=
  (Coo.total_eq_form _).trans (tetDiv_orth_const vtx ts Xs h _ fun _ _ => ⟨rfl, rfl, rfl⟩)

theorem nondegenTet_of_det (vtx : Nat → V3 ℝ) (ts : List Tet) (h : NonDegenDet vtx ts) : NonDegenTet vtx ts := by
  intro τ hτ
  rw [FemTet.tetVol_eq]
  exact abs_ne_zero.mpr (tetDet_ne_zero_of_guard (h τ hτ))

/-- **div(grad f) = −A f** on tetrahedral meshes -/
theorem tetDiv_grad (vtx : Nat → V3 ℝ) (ts : List Tet) (h : NonDegenDet vtx ts) (f : Nat → ℝ) (i : Nat) :
    Coo.mulVec (DiffGeo.tetDiv vtx ts (DiffGeo.tetGrad vtx ts f)) (fun _ => 1) i
      = - Coo.mulVec (Fem.stiffTet vtx ts) f i := by
  rw [Coo.mulVec_eq_form, Coo.mulVec_eq_form, tetDiv_adjoint vtx ts _ h,
    C01.stiff_form_tet vtx ts (nondegenTet_of_det vtx ts h)]
  congr 1
  unfold DiffGeo.tetGrad
  rw [zip_map_self_map]
  exact congrArg List.sum (List.map_congr_left fun τ hτ => by rw [tetGrad_eq_spec _ _ _ _ _ _ _ _ (h τ hτ), dot_comm])

/-- every triplet of a divergence has column 0, so the summed entry `(i,0)` is the `i`-th component of the vector -/
theorem entry_col0 (m : Coo ℝ) (h : ∀ e ∈ m, e.1.2 = 0) (i : Nat) :
    Coo.entry m i 0 = Coo.mulVec m (fun _ => 1) i := by
  rw [Coo.entry_eq_mulVec]
  exact Coo.mulVec_congr m _ _ i fun e he => if_pos (h e he)

end LapyVerif.Props.C06
