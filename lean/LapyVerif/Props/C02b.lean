import Mathlib.Analysis.SpecialFunctions.Integrals.Basic
import LapyVerif.Props.C02
/-
  C02b — the barycentric moment formula adopted in C02 as the definition of `∫_τ x_h y_h` IS the integral:
  iterated interval integrals (Mathlib) over the reference simplex, in the barycentric parametrisation
  `(u, v) ↦ v0 + u (v1 − v0) + v (v2 − v0)` (Jacobian `2·area`), resp. `(u, v, w)` with Jacobian `6·vol`.
-/
namespace LapyVerif.Props.C02

/-- a polynomial of any degree, given by its coefficients, term by term -/
theorem integral_polynomial (a b : ℝ) (c : ℕ → ℝ) (n : ℕ) :
    ∫ v in a..b, ∑ i ∈ Finset.range n, c i * v ^ i
      = ∑ i ∈ Finset.range n, c i * ((b ^ (i + 1) - a ^ (i + 1)) / (i + 1)) := by
  rw [intervalIntegral.integral_finsetSum fun i _ => (by fun_prop : Continuous fun v : ℝ => c i * v ^ i).intervalIntegrable a b]
  simp only [intervalIntegral.integral_const_mul, integral_pow]

/-- a function given with its monomial coefficients (up to degree 4): the integrand need not be written again -/
theorem integral_of_coeffs {f : ℝ → ℝ} (c0 c1 c2 c3 c4 : ℝ)
    (h : ∀ v, f v = c0 + c1 * v + c2 * v ^ 2 + c3 * v ^ 3 + c4 * v ^ 4) (a b : ℝ) :
    ∫ v in a..b, f v
      = c0 * (b - a) + c1 * ((b ^ 2 - a ^ 2) / 2) + c2 * ((b ^ 3 - a ^ 3) / 3) + c3 * ((b ^ 4 - a ^ 4) / 4)
        + c4 * ((b ^ 5 - a ^ 5) / 5) := by
  have e : ∀ v, f v = ∑ i ∈ Finset.range 5, [c0, c1, c2, c3, c4].getD i 0 * v ^ i := fun v => by
    simp only [h, Finset.sum_range_succ, Finset.sum_range_zero, List.getD_cons_zero, List.getD_cons_succ, pow_zero,
      pow_one, mul_one, zero_add]
  rw [funext e, integral_polynomial]
  simp only [Finset.sum_range_succ, Finset.sum_range_zero, List.getD_cons_zero, List.getD_cons_succ, zero_add]
  push_cast
  ring

theorem integral_of_affine_mul {f : ℝ → ℝ} (p q r s : ℝ) (h : ∀ t, f t = (p + q * t) * (r + s * t)) (c : ℝ) :
    ∫ t in (0 : ℝ)..c, f t = p * r * c + (p * s + q * r) * c ^ 2 / 2 + q * s * c ^ 3 / 3 := by
  refine (integral_of_coeffs (p * r) (p * s + q * r) (q * s) 0 0 (fun t => ?_) 0 c).trans ?_
  · rw [h]; ring
  · ring

/-- cubics in the basis `(c−v)^p v^q` on `[0, c]`, `∫ = c^{p+q+1} p! q!/(p+q+1)!` (the six terms that occur below) -/
theorem integral_simplex_mid (c k30 k21 k12 k20 k11 k10 : ℝ) :
    ∫ v in (0 : ℝ)..c, (k30 * (c - v) ^ 3 + k21 * (c - v) ^ 2 * v + k12 * (c - v) * v ^ 2
        + k20 * (c - v) ^ 2 + k11 * (c - v) * v + k10 * (c - v))
      = k30 * c ^ 4 / 4 + k21 * c ^ 4 / 12 + k12 * c ^ 4 / 12 + k20 * c ^ 3 / 3 + k11 * c ^ 3 / 6 + k10 * c ^ 2 / 2 := by
  refine (integral_of_coeffs (k30 * c ^ 3 + k20 * c ^ 2 + k10 * c)
    (-3 * k30 * c ^ 2 + k21 * c ^ 2 - 2 * k20 * c + k11 * c - k10) (3 * k30 * c - 2 * k21 * c + k12 * c + k20 - k11)
    (-k30 + k21 - k12) 0 (fun v => ?_) 0 c).trans ?_ <;> ring

/-- **a product of two affine functions over the triangle `0 ≤ u`, `0 ≤ v`, `u + v ≤ c`**, each written as a constant
    plus a combination of `c − u − v`, `u`, `v`.  With `c = 1` and no constants this is the reference triangle; with
    `c = 1 − u'` and the constants `x·u'`, `y·u'` it is the slice of the reference tetrahedron at height `u'`. -/
theorem integral_triangle {f : ℝ → ℝ → ℝ} (c k x0 x1 x2 l y0 y1 y2 : ℝ)
    (h : ∀ u v, f u v = (k + x0 * (c - u - v) + x1 * u + x2 * v) * (l + y0 * (c - u - v) + y1 * u + y2 * v)) :
    ∫ u in (0 : ℝ)..c, ∫ v in (0 : ℝ)..(c - u), f u v
      = k * l * c ^ 2 / 2 + (k * (y0 + y1 + y2) + l * (x0 + x1 + x2)) * c ^ 3 / 6
        + ((x0 * y0 + x1 * y1 + x2 * y2) / 12
            + (x0 * y1 + x1 * y0 + x1 * y2 + x2 * y1 + x2 * y0 + x0 * y2) / 24) * c ^ 4 := by
  have inner : ∀ u, ∫ v in (0 : ℝ)..(c - u), f u v
      = ((x0 * y0 + x2 * y2) / 3 + (x0 * y2 + x2 * y0) / 6) * (c - u) ^ 3
        + ((x1 * (y0 + y2) + (x0 + x2) * y1) / 2) * (c - u) ^ 2 * u + (x1 * y1) * (c - u) * u ^ 2
        + ((k * (y0 + y2) + l * (x0 + x2)) / 2) * (c - u) ^ 2 + (k * y1 + l * x1) * (c - u) * u
        + (k * l) * (c - u) := fun u => by
    refine (integral_of_affine_mul (k + x0 * (c - u) + x1 * u) (x2 - x0) (l + y0 * (c - u) + y1 * u) (y2 - y0)
      (fun v => ?_) (c - u)).trans ?_
    · rw [h]; ring
    · ring
  simp only [inner]
  rw [integral_simplex_mid]; ring

/-- **`∫_τ x_h y_h` in barycentric coordinates** for the affine functions with corner values `x`, `y`, per unit Jacobian -/
theorem tri_double_integral (x0 x1 x2 y0 y1 y2 : ℝ) :
    ∫ u in (0 : ℝ)..1, ∫ v in (0 : ℝ)..(1 - u),
        (x0 * (1 - u - v) + x1 * u + x2 * v) * (y0 * (1 - u - v) + y1 * u + y2 * v)
      = (x0 * y0 + x1 * y1 + x2 * y2) / 12 + (x0 * y1 + x1 * y0 + x1 * y2 + x2 * y1 + x2 * y0 + x0 * y2) / 24 := by
  refine (integral_triangle 1 0 x0 x1 x2 0 y0 y1 y2 fun u v => ?_).trans ?_ <;> ring

/-- **moments of the barycentric coordinates on the reference triangle**: squares `1/12`, mixed products `1/24`
    (times the Jacobian `2|τ|`: `|τ|/6` and `|τ|/12`) -/
theorem tri_moments :
    (∫ u in (0 : ℝ)..1, ∫ v in (0 : ℝ)..(1 - u), (1 - u - v) ^ 2) = 1 / 12 ∧
    (∫ u in (0 : ℝ)..1, ∫ _v in (0 : ℝ)..(1 - u), u ^ 2) = 1 / 12 ∧
    (∫ u in (0 : ℝ)..1, ∫ v in (0 : ℝ)..(1 - u), v ^ 2) = 1 / 12 ∧
    (∫ u in (0 : ℝ)..1, ∫ v in (0 : ℝ)..(1 - u), (1 - u - v) * u) = 1 / 24 ∧
    (∫ u in (0 : ℝ)..1, ∫ v in (0 : ℝ)..(1 - u), (1 - u - v) * v) = 1 / 24 ∧
    (∫ u in (0 : ℝ)..1, ∫ v in (0 : ℝ)..(1 - u), u * v) = 1 / 24 := by
  have k1 := tri_double_integral 1 0 0 1 0 0
  have k2 := tri_double_integral 0 1 0 0 1 0
  have k3 := tri_double_integral 0 0 1 0 0 1
  have k4 := tri_double_integral 1 0 0 0 1 0
  have k5 := tri_double_integral 1 0 0 0 0 1
  have k6 := tri_double_integral 0 1 0 0 0 1
  simp only [one_mul, zero_mul, mul_zero, mul_one, add_zero, zero_add, ← sq] at k1 k2 k3 k4 k5 k6
  refine ⟨k1.trans ?_, k2.trans ?_, k3.trans ?_, k4.trans ?_, k5.trans ?_, k6.trans ?_⟩ <;> norm_num

/-- area of the reference triangle: `∫∫ 1 = 1/2`, so the Jacobian `2|τ|` gives `∫_τ 1 = |τ|` -/
theorem tri_measure : (∫ u in (0 : ℝ)..1, ∫ _v in (0 : ℝ)..(1 - u), (1 : ℝ)) = 1 / 2 := by
  have := tri_double_integral 1 1 1 1 1 1
  have e : ∀ u v : ℝ, (1 * (1 - u - v) + 1 * u + 1 * v) * (1 * (1 - u - v) + 1 * u + 1 * v) = 1 := by intro u v; ring
  simp only [e] at this
  rw [this]; norm_num

/-- **the moment formula of C02 is the integral** of the product of the two linear interpolants over the triangle,
    `∫_τ q = 2|τ| ∫₀¹∫₀^{1−u} q(v0 + u(v1−v0) + v(v2−v0)) dv du` -/
theorem triL2_eq_integral (a x0 x1 x2 y0 y1 y2 : ℝ) :
    Spec.triL2 a x0 x1 x2 y0 y1 y2 =
      2 * a * ∫ u in (0 : ℝ)..1, ∫ v in (0 : ℝ)..(1 - u),
        (x0 * (1 - u - v) + x1 * u + x2 * v) * (y0 * (1 - u - v) + y1 * u + y2 * v) := by
  rw [tri_double_integral, Spec.triL2]; ring

/-- **x·B·y = Σ_τ ∫_τ x_h y_h** with the integral an honest (iterated interval) integral -/
theorem mass_form_integral (vtx : Nat → V3 ℝ) (ts : List Tri) (h : NonDegenTri vtx ts) (x y : Nat → ℝ) :
    Coo.form (Fem.massTria false vtx ts) x y =
      (ts.map fun τ => 2 * Spec.triArea (vtx τ.1) (vtx τ.2.1) (vtx τ.2.2) *
        ∫ u in (0 : ℝ)..1, ∫ v in (0 : ℝ)..(1 - u),
          (x τ.1 * (1 - u - v) + x τ.2.1 * u + x τ.2.2 * v) * (y τ.1 * (1 - u - v) + y τ.2.1 * u + y τ.2.2 * v)).sum := by
  rw [mass_form vtx ts h]
  exact congrArg List.sum (List.map_congr_left fun τ _ => triL2_eq_integral _ _ _ _ _ _ _)

/-- quartics in the Bernstein basis on `[0,1]` (the three terms that occur below) -/
theorem integral_bernstein4 (a40 a31 a22 : ℝ) :
    ∫ u in (0 : ℝ)..1, (a40 * (1 - u) ^ 4 + a31 * u * (1 - u) ^ 3 + a22 * u ^ 2 * (1 - u) ^ 2)
      = a40 / 5 + a31 / 20 + a22 / 30 := by
  refine (integral_of_coeffs a40 (-4 * a40 + a31) (6 * a40 - 3 * a31 + a22) (-4 * a40 + 3 * a31 - 2 * a22)
    (a40 - a31 + a22) (fun u => ?_) 0 1).trans ?_ <;> ring

/-- the slice of the reference tetrahedron at height `u` is a triangle of size `1 − u`, on which `x1 * u`, `y1 * u` are constant -/
theorem tet_mid (x0 x1 x2 x3 y0 y1 y2 y3 u : ℝ) :
    ∫ v in (0 : ℝ)..(1 - u), ∫ t in (0 : ℝ)..(1 - u - v),
        (x0 * (1 - u - v - t) + x1 * u + x2 * v + x3 * t) * (y0 * (1 - u - v - t) + y1 * u + y2 * v + y3 * t)
      = ((x0 * y0 + x2 * y2 + x3 * y3) / 12 + (x0 * y2 + x2 * y0 + x2 * y3 + x3 * y2 + x3 * y0 + x0 * y3) / 24) * (1 - u) ^ 4
        + ((x1 * (y0 + y2 + y3) + y1 * (x0 + x2 + x3)) / 6) * u * (1 - u) ^ 3
        + (x1 * y1 / 2) * u ^ 2 * (1 - u) ^ 2 := by
  refine (integral_triangle (1 - u) (x1 * u) x0 x2 x3 (y1 * u) y0 y2 y3 fun v t => ?_).trans ?_ <;> ring

/-- **`∫_τ x_h y_h` in barycentric coordinates on the reference tetrahedron**, per unit Jacobian -/
theorem tet_triple_integral (x0 x1 x2 x3 y0 y1 y2 y3 : ℝ) :
    ∫ u in (0 : ℝ)..1, ∫ v in (0 : ℝ)..(1 - u), ∫ t in (0 : ℝ)..(1 - u - v),
        (x0 * (1 - u - v - t) + x1 * u + x2 * v + x3 * t) * (y0 * (1 - u - v - t) + y1 * u + y2 * v + y3 * t)
      = (x0 * y0 + x1 * y1 + x2 * y2 + x3 * y3) / 60
        + (x0 * y1 + x1 * y0 + x0 * y2 + x2 * y0 + x0 * y3 + x3 * y0 + x1 * y2 + x2 * y1 + x1 * y3 + x3 * y1
            + x2 * y3 + x3 * y2) / 120 := by
  simp only [tet_mid]
  rw [integral_bernstein4]; ring

/-- **the moment formula of C02 for tetrahedra is the integral**,
    `∫_τ q = 6|τ| ∫₀¹∫₀^{1−u}∫₀^{1−u−v} q(v0 + u(v1−v0) + v(v2−v0) + t(v3−v0)) dt dv du` -/
theorem tetL2_eq_integral (w x0 x1 x2 x3 y0 y1 y2 y3 : ℝ) :
    Spec.tetL2 w x0 x1 x2 x3 y0 y1 y2 y3 =
      6 * w * ∫ u in (0 : ℝ)..1, ∫ v in (0 : ℝ)..(1 - u), ∫ t in (0 : ℝ)..(1 - u - v),
        (x0 * (1 - u - v - t) + x1 * u + x2 * v + x3 * t) * (y0 * (1 - u - v - t) + y1 * u + y2 * v + y3 * t) := by
  rw [tet_triple_integral, Spec.tetL2]; ring

/-- **moments on the reference tetrahedron**: squares `1/60`, mixed `1/120` (times `6|τ|`: `|τ|/10`, `|τ|/20`) -/
theorem tet_moments :
    (∫ u in (0 : ℝ)..1, ∫ v in (0 : ℝ)..(1 - u), ∫ t in (0 : ℝ)..(1 - u - v), (1 - u - v - t) ^ 2) = 1 / 60 ∧
    (∫ u in (0 : ℝ)..1, ∫ v in (0 : ℝ)..(1 - u), ∫ _t in (0 : ℝ)..(1 - u - v), u ^ 2) = 1 / 60 ∧
    (∫ u in (0 : ℝ)..1, ∫ v in (0 : ℝ)..(1 - u), ∫ _t in (0 : ℝ)..(1 - u - v), v ^ 2) = 1 / 60 ∧
    (∫ u in (0 : ℝ)..1, ∫ v in (0 : ℝ)..(1 - u), ∫ t in (0 : ℝ)..(1 - u - v), t ^ 2) = 1 / 60 ∧
    (∫ u in (0 : ℝ)..1, ∫ v in (0 : ℝ)..(1 - u), ∫ t in (0 : ℝ)..(1 - u - v), (1 - u - v - t) * u) = 1 / 120 ∧
    (∫ u in (0 : ℝ)..1, ∫ v in (0 : ℝ)..(1 - u), ∫ t in (0 : ℝ)..(1 - u - v), (1 - u - v - t) * v) = 1 / 120 ∧
    (∫ u in (0 : ℝ)..1, ∫ v in (0 : ℝ)..(1 - u), ∫ t in (0 : ℝ)..(1 - u - v), (1 - u - v - t) * t) = 1 / 120 ∧
    (∫ u in (0 : ℝ)..1, ∫ v in (0 : ℝ)..(1 - u), ∫ _t in (0 : ℝ)..(1 - u - v), u * v) = 1 / 120 ∧
    (∫ u in (0 : ℝ)..1, ∫ v in (0 : ℝ)..(1 - u), ∫ t in (0 : ℝ)..(1 - u - v), u * t) = 1 / 120 ∧
    (∫ u in (0 : ℝ)..1, ∫ v in (0 : ℝ)..(1 - u), ∫ t in (0 : ℝ)..(1 - u - v), v * t) = 1 / 120 := by
  have k1 := tet_triple_integral 1 0 0 0 1 0 0 0
  have k2 := tet_triple_integral 0 1 0 0 0 1 0 0
  have k3 := tet_triple_integral 0 0 1 0 0 0 1 0
  have k4 := tet_triple_integral 0 0 0 1 0 0 0 1
  have k5 := tet_triple_integral 1 0 0 0 0 1 0 0
  have k6 := tet_triple_integral 1 0 0 0 0 0 1 0
  have k7 := tet_triple_integral 1 0 0 0 0 0 0 1
  have k8 := tet_triple_integral 0 1 0 0 0 0 1 0
  have k9 := tet_triple_integral 0 1 0 0 0 0 0 1
  have k10 := tet_triple_integral 0 0 1 0 0 0 0 1
  simp only [one_mul, zero_mul, mul_zero, mul_one, add_zero, zero_add, ← sq] at k1 k2 k3 k4 k5 k6 k7 k8 k9 k10
  refine ⟨k1.trans ?_, k2.trans ?_, k3.trans ?_, k4.trans ?_, k5.trans ?_, k6.trans ?_, k7.trans ?_, k8.trans ?_,
    k9.trans ?_, k10.trans ?_⟩ <;> norm_num

theorem tet_measure :
    (∫ u in (0 : ℝ)..1, ∫ v in (0 : ℝ)..(1 - u), ∫ _t in (0 : ℝ)..(1 - u - v), (1 : ℝ)) = 1 / 6 := by
  have := tet_triple_integral 1 1 1 1 1 1 1 1
  have e : ∀ u v t : ℝ, (1 * (1 - u - v - t) + 1 * u + 1 * v + 1 * t) * (1 * (1 - u - v - t) + 1 * u + 1 * v + 1 * t) = 1 := by
    intro u v t; ring
  simp only [e] at this
  rw [this]; norm_num

/-- **x·B·y = Σ_τ ∫_τ x_h y_h** on tetrahedral meshes, with an honest (iterated interval) integral -/
theorem mass_form_integral_tet (vtx : Nat → V3 ℝ) (ts : List Tet) (h : NonDegenTet vtx ts) (x y : Nat → ℝ) :
    Coo.form (Fem.massTet false vtx ts) x y =
      (ts.map fun τ => 6 * Spec.tetVolume (vtx τ.1) (vtx τ.2.1) (vtx τ.2.2.1) (vtx τ.2.2.2) *
        ∫ u in (0 : ℝ)..1, ∫ v in (0 : ℝ)..(1 - u), ∫ t in (0 : ℝ)..(1 - u - v),
          (x τ.1 * (1 - u - v - t) + x τ.2.1 * u + x τ.2.2.1 * v + x τ.2.2.2 * t) *
          (y τ.1 * (1 - u - v - t) + y τ.2.1 * u + y τ.2.2.1 * v + y τ.2.2.2 * t)).sum := by
  rw [mass_form_tet vtx ts h]
  exact congrArg List.sum (List.map_congr_left fun τ _ => tetL2_eq_integral _ _ _ _ _ _ _ _ _)

end LapyVerif.Props.C02
