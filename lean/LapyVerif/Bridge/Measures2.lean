import LapyVerif.Bridge.Measures
import LapyVerif.Props.C19
/-
  Bridge (continued): `centroid()` (vector part) and `normalize_()` traced on the boundary of a generic tetrahedron are
  the model's.  The model is unfolded on the four triangles as it stands (not through `C13.centroid_eq`, whose `triArea`
  puts other atoms under the square roots than the traced code): after flattening the vectors the four square roots are
  the same atoms on both sides, so a single `ring` (no normalisation under the roots) closes each coordinate.
-/
namespace LapyVerif.Bridge

/-- **`centroid()` (vector part)** of the traced code is the model's -/
theorem meas_centroid (v0 v1 v2 v3 : V3 ℝ) :
    (let c := (Measures.centroid (vtx4 v0 v1 v2 v3) T4).1; [c.x, c.y, c.z]) = Gen.Measures.centroid v0 v1 v2 v3 := by
  simp only [Gen.Measures.centroid, Measures.centroid, T4, List.map, List.zip, List.zipWith, List.foldl, vtx4_0, vtx4_1, vtx4_2,
    vtx4_3]
  v3_flat [List.sum_cons, List.sum_nil, Measures.c, Gen.Measures.centroid_0, Gen.Measures.centroid_1, Gen.Measures.centroid_2]
  coo_entries <;> ring

/-- the traced `normalize_` reuses the traced total area and centroid -/
theorem gen_normalized (v0 v1 v2 v3 : V3 ℝ) :
    Gen.Measures.normalized0 v0 v1 v2 v3 =
      [1 / Real.sqrt (Gen.Measures.total v0 v1 v2 v3) * (v0.x - Gen.Measures.centroid_0 v0 v1 v2 v3),
       1 / Real.sqrt (Gen.Measures.total v0 v1 v2 v3) * (v0.y - Gen.Measures.centroid_1 v0 v1 v2 v3),
       1 / Real.sqrt (Gen.Measures.total v0 v1 v2 v3) * (v0.z - Gen.Measures.centroid_2 v0 v1 v2 v3)] :=
  rfl

/-- **`normalize_()`** (first vertex) of the traced code is the model's -/
theorem meas_normalized (v0 v1 v2 v3 : V3 ℝ) :
    (match Measures.normalize [v0, v1, v2, v3] (vtx4 v0 v1 v2 v3) T4 with
      | p :: _ => [p.x, p.y, p.z]
      | [] => []) = Gen.Measures.normalized0 v0 v1 v2 v3 := by
  have hc := meas_centroid v0 v1 v2 v3
  simp only [Gen.Measures.centroid, List.cons.injEq, and_true] at hc
  obtain ⟨hx, hy, hz⟩ := hc
  rw [Props.C19.normalize_eq, gen_normalized]
  simp only [List.map_cons, ← meas_total, ← hx, ← hy, ← hz, V3.smul_x, V3.smul_y, V3.smul_z, V3.sub_x, V3.sub_y, V3.sub_z]

end LapyVerif.Bridge
