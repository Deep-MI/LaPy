import Mathlib.Tactic.Linarith
import Mathlib.Tactic.FieldSimp
import Mathlib.Data.Complex.Basic
import Mathlib.Data.List.Nodup
import Mathlib.Tactic.LinearCombination
import LapyVerif.Lemmas.Assembly
import LapyVerif.Lemmas.ListAux
import LapyVerif.Lemmas.V3Alg
import LapyVerif.Model.Conformal
/-
  C18 — building blocks of `lapy/conformal.py`: the stereographic pair, Möbius maps, the Beltrami coefficient of an
  affine map, the generalised Laplacian of `linear_beltrami_solver` with landmark elimination, the guards.
  Model: `Model/Conformal.lean` (complex numbers are pairs `(re, im)`).
-/
namespace LapyVerif.Props.C18
open V3 Conformal

/-! ### stereographic projections -/

theorem one_real : (Conformal.one : ℝ) = 1 := by simp [Conformal.one]
theorem two_real : (Conformal.two : ℝ) = 2 := by simp [Conformal.two]

theorem denom_pos (w : ℝ × ℝ) : 0 < 1 + w.1 * w.1 + w.2 * w.2 :=
  add_pos_of_pos_of_nonneg (add_pos_of_pos_of_nonneg one_pos (mul_self_nonneg _)) (mul_self_nonneg _)

/-- `inverse_stereographic` in terms of `s = 2 / (1 + |w|²)`: the point is `(s w, 1 − s)`, so `s = 1 − z` and
    `stereographic` divides by it.  All three identities below are this one read with `s = 2 / (1 + |w|²)` or `s = 1 − u.z`. -/
theorem invStereo_eq (w : ℝ × ℝ) {s : ℝ} (hs : s * (1 + w.1 * w.1 + w.2 * w.2) = 2) :
    invStereo w = ⟨s * w.1, s * w.2, 1 - s⟩ := by
  have h := (denom_pos w).ne'
  simp only [invStereo, one_real, two_real]
  apply V3.ext' <;> simp only [div_eq_iff h]
  · linear_combination (-w.1) * hs
  · linear_combination (-w.2) * hs
  · linear_combination hs

theorem denom_mul (w : ℝ × ℝ) : 2 / (1 + w.1 * w.1 + w.2 * w.2) * (1 + w.1 * w.1 + w.2 * w.2) = 2 :=
  div_mul_cancel₀ _ (denom_pos w).ne'

/-- **every output of `inverse_stereographic` lies on the unit sphere** -/
theorem invStereo_unit (w : ℝ × ℝ) : normSq (invStereo w) = 1 := by
  rw [invStereo_eq w (denom_mul w)]
  v3_flat
  linear_combination 2 / (1 + w.1 * w.1 + w.2 * w.2) * denom_mul w

theorem stereo_mk {s : ℝ} (hs : s ≠ 0) (w : ℝ × ℝ) : stereo (⟨s * w.1, s * w.2, 1 - s⟩ : V3 ℝ) = w := by
  simp only [stereo, one_real, sub_sub_cancel, mul_div_cancel_left₀ _ hs]

theorem stereo_invStereo (w : ℝ × ℝ) : stereo (invStereo w) = w := by
  rw [invStereo_eq w (denom_mul w)]
  exact stereo_mk (div_ne_zero two_ne_zero (denom_pos w).ne') w

theorem invStereo_stereo (u : V3 ℝ) (hu : normSq u = 1) (hz : u.z ≠ 1) : invStereo (stereo u) = u := by
  have h1 : 1 - u.z ≠ 0 := sub_ne_zero.mpr (Ne.symm hz)
  have hu' : u.x * u.x + u.y * u.y + u.z * u.z = 1 := hu
  -- on the sphere `1 + |stereo u|² = 2 / (1 − z)`
  rw [invStereo_eq (stereo u) (s := 1 - u.z) (by simp only [stereo, one_real]; field_simp; linear_combination hu')]
  simp only [stereo, one_real, mul_div_cancel₀ _ h1, sub_sub_cancel]

/-- the mirror in the plane `z = 0`: the south-pole pair is the north-pole pair conjugated by it -/
def reflZ (u : V3 ℝ) : V3 ℝ := ⟨u.x, u.y, -u.z⟩

theorem invStereoSouth_eq (w : ℝ × ℝ) : invStereoSouth w = reflZ (invStereo w) := rfl

theorem stereoSouth_eq (u : V3 ℝ) : stereoSouth u = stereo (reflZ u) := by
  simp only [stereo, stereoSouth, reflZ, sub_neg_eq_add]

theorem reflZ_reflZ (u : V3 ℝ) : reflZ (reflZ u) = u := by
  apply V3.ext' <;> simp [reflZ]

theorem normSq_reflZ (u : V3 ℝ) : normSq (reflZ u) = normSq u := by
  v3_flat [reflZ]; ring

theorem invStereoSouth_unit (w : ℝ × ℝ) : normSq (invStereoSouth w) = 1 := by
  rw [invStereoSouth_eq, normSq_reflZ, invStereo_unit]

/-- the south-pole pair used by `spherical_conformal_map` is consistent -/
theorem south_pair :
    (∀ w : ℝ × ℝ, stereoSouth (invStereoSouth w) = w) ∧
    (∀ u : V3 ℝ, normSq u = 1 → u.z ≠ -1 → invStereoSouth (stereoSouth u) = u) := by
  constructor
  · intro w
    rw [invStereoSouth_eq, stereoSouth_eq, reflZ_reflZ, stereo_invStereo]
  · intro u hu hz
    rw [invStereoSouth_eq, stereoSouth_eq,
      invStereo_stereo _ ((normSq_reflZ u).trans hu) fun h => hz (neg_eq_iff_eq_neg.mp h), reflZ_reflZ]

/-- why the south-pole inverse negates `z`: pairing the south-pole projection with the north-pole inverse mirrors the
    sphere in the plane `z = 0` -/
theorem south_mirror (u : V3 ℝ) (hu : normSq u = 1) (hz : u.z ≠ -1) :
    invStereo (stereoSouth u) = ⟨u.x, u.y, -u.z⟩ := by
  rw [stereoSouth_eq, invStereo_stereo _ ((normSq_reflZ u).trans hu) fun h => hz (neg_eq_iff_eq_neg.mp h)]
  rfl

/-! ### Möbius maps -/

theorem mobius_unit (a b c d z : ℝ × ℝ) : normSq (invStereo (mobius a b c d z)) = 1 := invStereo_unit _

/-- the pair model read in Mathlib's `ℂ` -/
def toC (z : ℝ × ℝ) : ℂ := ⟨z.1, z.2⟩

theorem toC_inj {a b : ℝ × ℝ} (h : toC a = toC b) : a = b :=
  Prod.ext (congrArg Complex.re h) (congrArg Complex.im h)

theorem toC_ne_zero {a : ℝ × ℝ} (h : a ≠ (0, 0)) : toC a ≠ 0 := fun hc => h (toC_inj (b := (0, 0)) hc)

theorem toC_cadd (a b : ℝ × ℝ) : toC (cadd a b) = toC a + toC b := by
  apply Complex.ext <;> simp [toC, cadd]
theorem toC_csub (a b : ℝ × ℝ) : toC (csub a b) = toC a - toC b := by
  apply Complex.ext <;> simp [toC, csub]
theorem toC_cmul (a b : ℝ × ℝ) : toC (cmul a b) = toC a * toC b := by
  apply Complex.ext <;> simp [toC, cmul]
/-- the model's division agrees with `ℂ`'s for every divisor (both give `0` for the divisor `0`) -/
theorem toC_cdiv (a b : ℝ × ℝ) : toC (cdiv a b) = toC a / toC b := by
  apply Complex.ext
  · simp only [toC, cdiv, Complex.div_re, Complex.normSq_apply]; ring
  · simp only [toC, cdiv, Complex.div_im, Complex.normSq_apply]; ring

/-- cross ratio `(z1 − z3)(z2 − z4) / ((z1 − z4)(z2 − z3))` in the pair model -/
noncomputable def cr (z1 z2 z3 z4 : ℝ × ℝ) : ℝ × ℝ :=
  cdiv (cmul (csub z1 z3) (csub z2 z4)) (cmul (csub z1 z4) (csub z2 z3))

theorem toC_cr (z1 z2 z3 z4 : ℝ × ℝ) :
    toC (cr z1 z2 z3 z4) = ((toC z1 - toC z3) * (toC z2 - toC z4)) / ((toC z1 - toC z4) * (toC z2 - toC z3)) := by
  simp only [cr, toC_cdiv, toC_cmul, toC_csub]

theorem mobius_sub (a b c d z w : ℂ) (hz : c * z + d ≠ 0) (hw : c * w + d ≠ 0) :
    (a * z + b) / (c * z + d) - (a * w + b) / (c * w + d) = (a * d - b * c) * (z - w) / ((c * z + d) * (c * w + d)) := by
  rw [div_sub_div _ _ hz hw]
  congr 1
  ring

/-- **Möbius maps preserve the cross ratio** (in `ℂ`).  No distinctness hypothesis is needed: with the convention
    `x / 0 = 0` shared by the model and `ℂ`, both sides vanish together. -/
theorem mobius_cross_ratio_C (a b c d z1 z2 z3 z4 : ℂ) (hdet : a * d - b * c ≠ 0)
    (h1 : c * z1 + d ≠ 0) (h2 : c * z2 + d ≠ 0) (h3 : c * z3 + d ≠ 0) (h4 : c * z4 + d ≠ 0) :
    let M := fun z => (a * z + b) / (c * z + d)
    ((M z1 - M z3) * (M z2 - M z4)) / ((M z1 - M z4) * (M z2 - M z3)) =
      ((z1 - z3) * (z2 - z4)) / ((z1 - z4) * (z2 - z3)) := by
  intro M
  simp only [M, mobius_sub a b c d _ _ h1 h3, mobius_sub a b c d _ _ h2 h4, mobius_sub a b c d _ _ h1 h4,
    mobius_sub a b c d _ _ h2 h3]
  -- both products have the same denominator and the factor `(ad − bc)²` in the numerator
  rw [div_mul_div_comm, div_mul_div_comm,
    show (c * z1 + d) * (c * z4 + d) * ((c * z2 + d) * (c * z3 + d))
      = (c * z1 + d) * (c * z3 + d) * ((c * z2 + d) * (c * z4 + d)) by ring,
    div_div_div_cancel_right₀ (mul_ne_zero (mul_ne_zero h1 h3) (mul_ne_zero h2 h4)), mul_mul_mul_comm _ (z1 - z3),
    mul_mul_mul_comm _ (z1 - z4), mul_div_mul_left _ _ (mul_ne_zero hdet hdet)]

theorem mobius_cross_ratio (a b c d z1 z2 z3 z4 : ℝ × ℝ)
    (hdet : csub (cmul a d) (cmul b c) ≠ (0, 0))
    (h1 : cadd (cmul c z1) d ≠ (0, 0)) (h2 : cadd (cmul c z2) d ≠ (0, 0))
    (h3 : cadd (cmul c z3) d ≠ (0, 0)) (h4 : cadd (cmul c z4) d ≠ (0, 0)) :
    cr (mobius a b c d z1) (mobius a b c d z2) (mobius a b c d z3) (mobius a b c d z4) = cr z1 z2 z3 z4 := by
  apply toC_inj
  simp only [toC_cr, mobius, toC_cdiv, toC_cadd, toC_cmul]
  have hdet' := toC_ne_zero hdet
  have h1' := toC_ne_zero h1; have h2' := toC_ne_zero h2; have h3' := toC_ne_zero h3; have h4' := toC_ne_zero h4
  simp only [toC_csub, toC_cadd, toC_cmul] at hdet' h1' h2' h3' h4'
  exact mobius_cross_ratio_C _ _ _ _ _ _ _ _ hdet' h1' h2' h3' h4'

/-! ### the Beltrami coefficient of an affine map -/

/-- twice the signed area of the planar triangle, as in the code -/
def areas2 (p0 p1 p2 : ℝ × ℝ) : ℝ := (csub p2 p1).1 * (csub p0 p2).2 - (csub p2 p1).2 * (csub p0 p2).1

/-- the discrete `∂/∂x` of the code -/
noncomputable def ddx (p0 p1 p2 : ℝ × ℝ) (f0 f1 f2 : ℝ) : ℝ :=
  ((csub p2 p1).2 / areas2 p0 p1 p2) * f0 + ((csub p0 p2).2 / areas2 p0 p1 p2) * f1 + ((csub p1 p0).2 / areas2 p0 p1 p2) * f2
/-- the discrete `∂/∂y` of the code -/
noncomputable def ddy (p0 p1 p2 : ℝ × ℝ) (f0 f1 f2 : ℝ) : ℝ :=
  (-((csub p2 p1).1 / areas2 p0 p1 p2)) * f0 + (-((csub p0 p2).1 / areas2 p0 p1 p2)) * f1 +
    (-((csub p1 p0).1 / areas2 p0 p1 p2)) * f2

/-- the discrete derivatives of an affine function are its exact partial derivatives **with the opposite sign**:
    the code's `dx`, `dy` are `−∂/∂x`, `−∂/∂y` (for `p = (0,0),(1,0),(0,1)` and `f = x` the code's `dx f` is `−1`).
    Both signs flip together, so the quadratic quantities `E, F, G` — all that `beltrami_coefficient` uses — are
    unaffected. -/
theorem ddx_affine (p0 p1 p2 : ℝ × ℝ) (hA : areas2 p0 p1 p2 ≠ 0) (α β γ : ℝ) :
    ddx p0 p1 p2 (α + p0.1 * β + p0.2 * γ) (α + p1.1 * β + p1.2 * γ) (α + p2.1 * β + p2.2 * γ) = -β := by
  -- the denominator as `field_simp` will meet it after unfolding
  have hA' : (p2.1 - p1.1) * (p0.2 - p2.2) - (p2.2 - p1.2) * (p0.1 - p2.1) ≠ 0 := hA
  simp only [ddx, areas2, csub]
  field_simp
  ring

theorem ddy_affine (p0 p1 p2 : ℝ × ℝ) (hA : areas2 p0 p1 p2 ≠ 0) (α β γ : ℝ) :
    ddy p0 p1 p2 (α + p0.1 * β + p0.2 * γ) (α + p1.1 * β + p1.2 * γ) (α + p2.1 * β + p2.2 * γ) = -γ := by
  have hA' : (p2.1 - p1.1) * (p0.2 - p2.2) - (p2.2 - p1.2) * (p0.1 - p2.1) ≠ 0 := hA
  simp only [ddy, areas2, csub]
  field_simp
  ring

/-- the Beltrami coefficient `(E − G + 2iF) / (E + G + 2√(EG − F²))` of a first fundamental form -/
noncomputable def formMu (E F G : ℝ) : ℝ × ℝ :=
  ((E - G) / (E + G + 2 * Real.sqrt (E * G - F * F)), (2 * F) / (E + G + 2 * Real.sqrt (E * G - F * F)))

theorem beltrami1_eq (p0 p1 p2 : ℝ × ℝ) (m0 m1 m2 : V3 ℝ) :
    beltrami1 p0 p1 p2 m0 m1 m2 =
      (let mu : V3 ℝ := ⟨ddx p0 p1 p2 m0.x m1.x m2.x, ddx p0 p1 p2 m0.y m1.y m2.y, ddx p0 p1 p2 m0.z m1.z m2.z⟩
       let mv : V3 ℝ := ⟨ddy p0 p1 p2 m0.x m1.x m2.x, ddy p0 p1 p2 m0.y m1.y m2.y, ddy p0 p1 p2 m0.z m1.z m2.z⟩
       formMu (dot mu mu) (dot mu mv) (dot mv mv)) := by
  simp only [beltrami1, ddx, ddy, areas2, two_real, sqrt_real, formMu, dot]

/-- **`beltrami_coefficient` of any affine map `p ↦ o + p.1 U + p.2 V` of the plane into space sees only the first
    fundamental form `U·U, U·V, V·V`** -/
theorem beltrami1_affine (p0 p1 p2 : ℝ × ℝ) (hA : areas2 p0 p1 p2 ≠ 0) (o U V : V3 ℝ) :
    beltrami1 p0 p1 p2 (o + smul p0.1 U + smul p0.2 V) (o + smul p1.1 U + smul p1.2 V) (o + smul p2.1 U + smul p2.2 V)
      = formMu (dot U U) (dot U V) (dot V V) := by
  rw [beltrami1_eq]
  simp only [add_x, add_y, add_z, smul_x, smul_y, smul_z, ddx_affine p0 p1 p2 hA, ddy_affine p0 p1 p2 hA, dot,
    neg_mul_neg]

theorem formMu_of_sq {E F G J D : ℝ} (hJ : 0 ≤ J) (h : E * G - F * F = J * J) (hD : E + G + 2 * J = D) :
    formMu E F G = ((E - G) / D, (2 * F) / D) := by
  rw [formMu, h, Real.sqrt_mul_self hJ, hD]

def cconj (z : ℝ × ℝ) : ℝ × ℝ := (z.1, -z.2)

/-- the real-affine map `z ↦ a z + b z̄` of the plane (`w_z = a`, `w_z̄ = b`) -/
def affMap (a b z : ℝ × ℝ) : ℝ × ℝ := cadd (cmul a z) (cmul b (cconj z))

/-- isometric embedding of the plane into space: origin `o`, orthonormal directions `e1`, `e2` -/
def embed (o e1 e2 : V3 ℝ) (w : ℝ × ℝ) : V3 ℝ := o + smul w.1 e1 + smul w.2 e2

/-- the embedded map `z ↦ a z + b z̄` is affine with `∂/∂x = (a + b)` and `∂/∂y = i (a − b)` read in the frame -/
theorem embed_affMap (o e1 e2 : V3 ℝ) (a b p : ℝ × ℝ) :
    embed o e1 e2 (affMap a b p) = o + smul p.1 (smul (a.1 + b.1) e1 + smul (a.2 + b.2) e2)
      + smul p.2 (smul (b.2 - a.2) e1 + smul (a.1 - b.1) e2) := by
  refine ext_dot fun w => ?_
  simp only [embed, affMap, cadd, cmul, cconj, dot_add_right, dot_smul_right]; ring

theorem dot_comb {e1 e2 : V3 ℝ} (h11 : dot e1 e1 = 1) (h22 : dot e2 e2 = 1) (h12 : dot e1 e2 = 0) (α β γ δ : ℝ) :
    dot (smul α e1 + smul β e2) (smul γ e1 + smul δ e2) = α * γ + β * δ := by
  simp only [dot_add_left, dot_add_right, dot_smul_left, dot_smul_right, h11, h22, h12, dot_comm e2 e1]
  ring

/-- **the Beltrami coefficient computed by `beltrami_coefficient` for an orientation-preserving affine map
    `z ↦ a z + b z̄` (`|b| < |a|`), embedded isometrically anywhere in space, is exactly `b / a`** -/
theorem beltrami_affine (p0 p1 p2 a b : ℝ × ℝ) (o e1 e2 : V3 ℝ) (hA : areas2 p0 p1 p2 ≠ 0)
    (h11 : dot e1 e1 = 1) (h22 : dot e2 e2 = 1) (h12 : dot e1 e2 = 0)
    (hab : b.1 * b.1 + b.2 * b.2 < a.1 * a.1 + a.2 * a.2) :
    beltrami1 p0 p1 p2 (embed o e1 e2 (affMap a b p0)) (embed o e1 e2 (affMap a b p1)) (embed o e1 e2 (affMap a b p2))
      = cdiv b a := by
  obtain ⟨a1, a2⟩ := a
  obtain ⟨b1, b2⟩ := b
  simp only at hab
  have ha : a1 * a1 + a2 * a2 ≠ 0 := (lt_of_le_of_lt (add_nonneg (mul_self_nonneg b1) (mul_self_nonneg b2)) hab).ne'
  simp only [embed_affMap, beltrami1_affine p0 p1 p2 hA, dot_comb h11 h22 h12]
  -- `E = |a + b|²`, `G = |a − b|²`, `F = 2 Im (ā b)`, and `EG − F²` is the square of the Jacobian `|a|² − |b|²`
  rw [formMu_of_sq (J := a1 * a1 + a2 * a2 - (b1 * b1 + b2 * b2)) (D := 4 * (a1 * a1 + a2 * a2)) (by linarith) (by ring)
    (by ring), cdiv]
  congr 1 <;> (field_simp; ring)

/-! ### the generalised Laplacian of `linear_beltrami_solver` -/

/-- a symmetric `3 × 3` block given by its triplets, in the order of `linear_beltrami_solver` -/
def symBlock (t0 t1 t2 : Nat) (a b c d e k : ℝ) : Coo ℝ :=
  [((t0, t0), a), ((t1, t1), b), ((t2, t2), c), ((t0, t1), d), ((t1, t0), d), ((t1, t2), e), ((t2, t1), e),
   ((t2, t0), k), ((t0, t2), k)]

theorem symBlock_form_symm (t0 t1 t2 : Nat) (a b c d e k : ℝ) (f g : Nat → ℝ) :
    Coo.form (symBlock t0 t1 t2 a b c d e k) f g = Coo.form (symBlock t0 t1 t2 a b c d e k) g f := by
  simp only [symBlock, Coo.form, List.map, List.sum_cons, List.sum_nil]
  ring

theorem symBlock_form_const {a b c d e k : ℝ} (h0 : a + d + k = 0) (h1 : b + e + d = 0) (h2 : c + k + e = 0)
    (t0 t1 t2 : Nat) (f : Nat → ℝ) (x : ℝ) : Coo.form (symBlock t0 t1 t2 a b c d e k) f (fun _ => x) = 0 := by
  simp only [symBlock, Coo.form, List.map, List.sum_cons, List.sum_nil]
  linear_combination (f t0 * x) * h0 + (f t1 * x) * h1 + (f t2 * x) * h2

/-- one row of the block: a symmetric quadratic form `(α, β, γ)` evaluated on three plane vectors `(xᵢ, yᵢ)` adding up
    to zero (the rotated edges of a triangle).  Written with the model's `Conformal.two` so that `lbsBlock_shape` can
    match the entries of `lbsBlock` by `rfl`. -/
theorem quad_row (α β γ A x0 y0 x1 y1 x2 y2 : ℝ) (hx : x0 + x1 + x2 = 0) (hy : y0 + y1 + y2 = 0) :
    (α * x0 * x0 + Conformal.two * β * x0 * y0 + γ * y0 * y0) / A
      + (α * x1 * x0 + β * x1 * y0 + β * x0 * y1 + γ * y1 * y0) / A
      + (α * x0 * x2 + β * x0 * y2 + β * x2 * y0 + γ * y0 * y2) / A = 0 := by
  obtain rfl : x2 = -x0 - x1 := by linarith
  obtain rfl : y2 = -y0 - y1 := by linarith
  rw [two_real]
  ring

/-- the block of `linear_beltrami_solver` is symmetric and its rows sum to zero -/
theorem lbsBlock_shape (t0 t1 t2 : Nat) (p0 p1 p2 mu : ℝ × ℝ) :
    ∃ a b c d e k : ℝ, lbsBlock (t0, t1, t2) p0 p1 p2 mu = symBlock t0 t1 t2 a b c d e k ∧
      a + d + k = 0 ∧ b + e + d = 0 ∧ c + k + e = 0 :=
  ⟨_, _, _, _, _, _, rfl, quad_row _ _ _ _ _ _ _ _ _ _ (by ring) (by ring), quad_row _ _ _ _ _ _ _ _ _ _ (by ring) (by ring),
    quad_row _ _ _ _ _ _ _ _ _ _ (by ring) (by ring)⟩

theorem lbs_block_symm (t0 t1 t2 : Nat) (p0 p1 p2 mu : ℝ × ℝ) (f g : Nat → ℝ) :
    Coo.form (lbsBlock (t0, t1, t2) p0 p1 p2 mu) f g = Coo.form (lbsBlock (t0, t1, t2) p0 p1 p2 mu) g f := by
  obtain ⟨a, b, c, d, e, k, h, -⟩ := lbsBlock_shape t0 t1 t2 p0 p1 p2 mu
  rw [h, symBlock_form_symm]

theorem lbs_block_entry_symm (t0 t1 t2 : Nat) (p0 p1 p2 mu : ℝ × ℝ) (i j : Nat) :
    Coo.entry (lbsBlock (t0, t1, t2) p0 p1 p2 mu) i j = Coo.entry (lbsBlock (t0, t1, t2) p0 p1 p2 mu) j i :=
  Coo.entry_symm_of_form_symm _ (lbs_block_symm t0 t1 t2 p0 p1 p2 mu) i j

/-- the block annihilates constants: `f·B·c = 0` for every `f` (the edge normals of a triangle add up to zero) -/
theorem lbs_block_const (t0 t1 t2 : Nat) (p0 p1 p2 mu : ℝ × ℝ) (f : Nat → ℝ) (c : ℝ) :
    Coo.form (lbsBlock (t0, t1, t2) p0 p1 p2 mu) f (fun _ => c) = 0 := by
  obtain ⟨_, _, _, _, _, _, h, h0, h1, h2⟩ := lbsBlock_shape t0 t1 t2 p0 p1 p2 mu
  rw [h, symBlock_form_const h0 h1 h2]

theorem lbs_block_rowsum (t0 t1 t2 : Nat) (p0 p1 p2 mu : ℝ × ℝ) (i : Nat) :
    Coo.mulVec (lbsBlock (t0, t1, t2) p0 p1 p2 mu) (fun _ => 1) i = 0 := by
  rw [Coo.mulVec_eq_form, lbs_block_const]

theorem lbsMatrix_symm (pl : Nat → ℝ × ℝ) (ts : List Tri) (mus : List (ℝ × ℝ)) (f g : Nat → ℝ) :
    Coo.form (lbsMatrix pl ts mus) f g = Coo.form (lbsMatrix pl ts mus) g f := by
  unfold lbsMatrix
  exact (Coo.form_flatten_map _ _ _ f g fun p _ => lbs_block_symm p.1.1 p.1.2.1 p.1.2.2 _ _ _ p.2 f g).trans
    (Coo.form_flatten_map _ _ _ g f fun _ _ => rfl).symm

theorem lbsMatrix_rowsum (pl : Nat → ℝ × ℝ) (ts : List Tri) (mus : List (ℝ × ℝ)) (i : Nat) :
    Coo.mulVec (lbsMatrix pl ts mus) (fun _ => 1) i = 0 := by
  unfold lbsMatrix
  rw [Coo.mulVec_flatten_map _ _ (fun _ => 0) _ i fun p _ => lbs_block_rowsum p.1.1 p.1.2.1 p.1.2.2 _ _ _ p.2 i]
  simp

/-! #### landmark elimination -/

/-- the part of the matrix that `lbsEliminate` keeps: the triplets outside the landmark rows and columns -/
abbrev kept (A : Coo ℝ) (L : List Nat) : Coo ℝ := A.filter fun e => !L.contains e.1.1 && !L.contains e.1.2

theorem kept_no_landmark (A : Coo ℝ) (L : List Nat) : ∀ e ∈ kept A L, e.1.1 ∉ L ∧ e.1.2 ∉ L := by
  intro e he
  have := (List.mem_filter.mp he).2
  simpa using this

theorem mulVec_kept_landmark (A : Coo ℝ) (L : List Nat) (x : Nat → ℝ) {l : Nat} (hl : l ∈ L) :
    Coo.mulVec (kept A L) x l = 0 := by
  rw [Coo.mulVec, List.filter_eq_nil_iff.mpr]
  · rfl
  · intro e he hr
    exact (kept_no_landmark A L e he).1 (beq_iff_eq.mp hr ▸ hl)

theorem entry_kept_landmark (A : Coo ℝ) (L : List Nat) {a b : Nat} (h : a ∈ L ∨ b ∈ L) :
    Coo.entry (kept A L) a b = 0 := by
  rw [Coo.entry, List.filter_eq_nil_iff.mpr]
  · rfl
  · intro e he hr
    obtain ⟨k1, k2⟩ := kept_no_landmark A L e he
    rw [Bool.and_eq_true, beq_iff_eq, beq_iff_eq] at hr
    rcases h with h | h
    · exact k1 (hr.1 ▸ h)
    · exact k2 (hr.2 ▸ h)

/-- the diagonal part: a `1` at every landmark -/
theorem mulVec_diag (L : List Nat) (hL : L.Nodup) (x : Nat → ℝ) (i : Nat) :
    Coo.mulVec (L.map fun l => ((l, l), (Conformal.one : ℝ))) x i = if i ∈ L then x i else 0 := by
  -- row `i` of the diagonal part is `i` repeated as often as it occurs in `L`: once or never
  simp only [Coo.mulVec, List.filter_map, List.map_map, Function.comp_def, List.filter_beq, one_real, one_mul]
  split_ifs with h
  · rw [List.count_eq_one_of_mem hL h]; simp
  · rw [List.count_eq_zero_of_not_mem h]; simp

/-- **in the eliminated matrix the row of a landmark is the unit row** -/
theorem lbsEliminate_row (A : Coo ℝ) (L : List Nat) (hL : L.Nodup) (x : Nat → ℝ) {l : Nat} (hl : l ∈ L) :
    Coo.mulVec (lbsEliminate A L) x l = x l := by
  rw [lbsEliminate, Coo.mulVec_append, mulVec_kept_landmark A L x hl, mulVec_diag L hL, if_pos hl, zero_add]

theorem lbsEliminate_entries (A : Coo ℝ) (L : List Nat) (hL : L.Nodup) {l : Nat} (hl : l ∈ L) (j : Nat) :
    Coo.entry (lbsEliminate A L) l j = (if j = l then 1 else 0) ∧
    Coo.entry (lbsEliminate A L) j l = (if j = l then 1 else 0) := by
  have key : ∀ a b, (a ∈ L ∨ b ∈ L) →
      Coo.entry (lbsEliminate A L) a b = if a ∈ L then (if a = b then 1 else 0) else 0 := by
    intro a b hab
    rw [lbsEliminate, Coo.entry_append, entry_kept_landmark A L hab, zero_add, Coo.entry_eq_mulVec,
      mulVec_diag L hL]
  constructor
  · rw [key l j (Or.inl hl), if_pos hl]
    exact if_congr eq_comm rfl rfl
  · rw [key j l (Or.inr hl)]
    by_cases h : j = l
    · rw [if_pos (h ▸ hl)]
    · rw [if_neg h]; split_ifs <;> rfl

theorem lbsRhs_landmark (A : Coo ℝ) (nv : Nat) (L : List Nat) (target : List ℝ) (hL : L.Nodup) (k : Nat)
    (hk : k < L.length) (hlt : L[k] < nv) : (lbsRhs A nv L target).getD L[k] 0 = target.getD k 0 := by
  simp only [lbsRhs, List.getD_eq_getElem?_getD, List.getElem?_map, List.getElem?_range hlt, Option.map_some,
    List.idxOf?_getElem hL k hk, Option.getD_some]

/-- the part of row `i` that the elimination moves to the right-hand side -/
noncomputable def movedSum (A : Coo ℝ) (L : List Nat) (target : List ℝ) (i : Nat) : ℝ :=
  ((A.filter fun e => e.1.1 == i).map fun e =>
    match L.idxOf? e.1.2 with
    | some k => e.2 * target.getD k 0
    | none => 0).sum

theorem lbsRhs_interior (A : Coo ℝ) (nv : Nat) (L : List Nat) (target : List ℝ) {i : Nat} (hi : i < nv) (hiL : i ∉ L) :
    (lbsRhs A nv L target).getD i 0 = -movedSum A L target i := by
  have hnone : L.idxOf? i = none := List.idxOf?_eq_none_iff.mpr hiL
  simp only [lbsRhs, List.getD_eq_getElem?_getD, List.getElem?_map, List.getElem?_range hi, Option.map_some, hnone,
    Option.getD_some, movedSum]
  rfl

/-- row `i ∉ L` of the original matrix = kept part + moved part, once `x` has the target values at the landmarks -/
theorem row_split (A : Coo ℝ) (L : List Nat) (target : List ℝ) (x : Nat → ℝ) {i : Nat} (hiL : i ∉ L)
    (hx : ∀ l k, L.idxOf? l = some k → x l = target.getD k 0) :
    Coo.mulVec A x i =
      Coo.mulVec (kept A L) x i + movedSum A L target i := by
  -- all three are sums over the triplets of row `i`; compare them triplet by triplet
  unfold Coo.mulVec movedSum
  rw [List.filter_comm, List.sum_map_filter fun e : (Nat × Nat) × ℝ => !L.contains e.1.1 && !L.contains e.1.2,
    ← List.sum_map_add]
  refine congrArg List.sum (List.map_congr_left fun e he => ?_)
  have hrow : e.1.1 ∉ L := (beq_iff_eq.mp (List.mem_filter.mp he).2) ▸ hiL
  cases hk : L.idxOf? e.1.2 with
  | none =>
    have hcol : e.1.2 ∉ L := List.idxOf?_eq_none_iff.mp hk
    simp [hrow, hcol]
  | some k =>
    have hcol : e.1.2 ∈ L := by
      by_contra hc; rw [List.idxOf?_eq_none_iff.mpr hc] at hk; exact absurd hk (by simp)
    simp [hcol, hx _ _ hk]

/-- **landmark elimination is exact**: any solution `x` of the eliminated system `A' x = b` takes the target values
    at the landmarks and satisfies the original generalised Laplace equation `(A x)_i = 0` at every other vertex -/
theorem lbs_eliminate_spec (A : Coo ℝ) (nv : Nat) (L : List Nat) (target : List ℝ) (x : Nat → ℝ) (hL : L.Nodup)
    (hLn : ∀ l ∈ L, l < nv)
    (hsolve : ∀ i, i < nv → Coo.mulVec (lbsEliminate A L) x i = (lbsRhs A nv L target).getD i 0) :
    (∀ k (hk : k < L.length), x L[k] = target.getD k 0) ∧
    (∀ i, i < nv → i ∉ L → Coo.mulVec A x i = 0) := by
  have hland : ∀ k (hk : k < L.length), x L[k] = target.getD k 0 := by
    intro k hk
    have hm : L[k] ∈ L := List.getElem_mem hk
    have h1 := hsolve L[k] (hLn _ hm)
    rw [lbsEliminate_row A L hL x hm, lbsRhs_landmark A nv L target hL k hk (hLn _ hm)] at h1
    exact h1
  refine ⟨hland, ?_⟩
  intro i hi hiL
  have hx : ∀ l k, L.idxOf? l = some k → x l = target.getD k 0 := by
    intro l k hlk
    obtain ⟨hk, hget, _⟩ := List.idxOf?_eq_some_iff.mp hlk
    rw [← hget]; exact hland k hk
  have h1 := hsolve i hi
  rw [lbsEliminate, Coo.mulVec_append, mulVec_diag L hL, if_neg hiL, add_zero, lbsRhs_interior A nv L target hi hiL] at h1
  rw [row_split A L target x hiL hx, h1]; ring

/-! ### the guards of `spherical_conformal_map` -/

/-- only genus-0 meshes (Euler characteristic 2) are accepted -/
theorem eulerGuard_spec (e : Int) : eulerGuard e = .ok () ↔ e = 2 := by
  unfold eulerGuard
  by_cases h : e = 2
  · subst h; simp
  · simp [h]

/-- `fixnum = max(round(nv/10), 3)` with Python's round-half-to-even: at least 3; when the floor is not active it is a
    nearest integer to `nv/10`, and a tie is resolved to the even neighbour -/
theorem fixnum_spec (nv : Nat) :
    3 ≤ fixnum nv ∧
    (3 < fixnum nv → 10 * fixnum nv ≤ nv + 5 ∧ nv ≤ 10 * fixnum nv + 5 ∧
      ((nv + 5 = 10 * fixnum nv ∨ nv = 10 * fixnum nv + 5) → fixnum nv % 2 = 0)) ∧
    (fixnum nv = 3 → nv ≤ 35) := by
  unfold fixnum
  simp only [beq_iff_eq]
  split_ifs <;> omega

theorem fixnum_eq (nv : Nat) :
    fixnum nv = max (if nv % 10 < 5 then nv / 10 else if 5 < nv % 10 then nv / 10 + 1
      else if nv / 10 % 2 = 0 then nv / 10 else nv / 10 + 1) 3 := by
  unfold fixnum
  simp only [beq_iff_eq, gt_iff_lt]

section Examples

example : fixnum 25 = 3 ∧ fixnum 35 = 4 ∧ fixnum 45 = 4 ∧ fixnum 55 = 6 ∧ fixnum 100 = 10 ∧ fixnum 0 = 3 := by decide
example : eulerGuard 2 = .ok () ∧ eulerGuard 0 ≠ .ok () := by
  constructor
  · exact (eulerGuard_spec 2).mpr rfl
  · intro h; have := (eulerGuard_spec 0).mp h; omega

example : invStereo ((1, 1) : ℝ × ℝ) = ⟨2 / 3, 2 / 3, 1 / 3⟩ := by
  simp only [invStereo, one_real, two_real]; apply V3.ext' <;> norm_num
example : stereo (⟨2 / 3, 2 / 3, 1 / 3⟩ : V3 ℝ) = (1, 1) := by
  simp only [stereo, one_real]; apply Prod.ext <;> norm_num

/-- the hypotheses of `invStereo_stereo` are satisfiable: the south pole -/
example : invStereo (stereo (⟨0, 0, -1⟩ : V3 ℝ)) = ⟨0, 0, -1⟩ :=
  invStereo_stereo _ (by v3_flat; norm_num) (by norm_num)

/-- the Möbius map `z ↦ (2z + 1)/(z + 3)` and four points on the real axis -/
example : cr (mobius (2, 0) (1, 0) (1, 0) (3, 0) ((0, 0) : ℝ × ℝ)) (mobius (2, 0) (1, 0) (1, 0) (3, 0) (1, 0))
    (mobius (2, 0) (1, 0) (1, 0) (3, 0) (2, 0)) (mobius (2, 0) (1, 0) (1, 0) (3, 0) (5, 0))
    = cr (0, 0) (1, 0) (2, 0) (5, 0) := by
  apply mobius_cross_ratio <;> (simp only [csub, cadd, cmul]; intro h; have := congrArg Prod.fst h; norm_num at this)

/-- `z ↦ 2z + z̄` on the unit right triangle, target plane `z = 7`: Beltrami coefficient `1/2` -/
example : beltrami1 ((0, 0) : ℝ × ℝ) (1, 0) (0, 1)
    (embed ⟨0, 0, 7⟩ ⟨1, 0, 0⟩ ⟨0, 1, 0⟩ (affMap (2, 0) (1, 0) (0, 0)))
    (embed ⟨0, 0, 7⟩ ⟨1, 0, 0⟩ ⟨0, 1, 0⟩ (affMap (2, 0) (1, 0) (1, 0)))
    (embed ⟨0, 0, 7⟩ ⟨1, 0, 0⟩ ⟨0, 1, 0⟩ (affMap (2, 0) (1, 0) (0, 1))) = (1 / 2, 0) := by
  rw [beltrami_affine _ _ _ _ _ _ _ _ (by simp [areas2, csub]) (by v3_flat; norm_num) (by v3_flat; norm_num)
    (by v3_flat; norm_num) (by norm_num)]
  simp only [cdiv]; apply Prod.ext <;> norm_num

/-- the sign of the code's discrete derivative: `dx` of `f = x` on the unit right triangle is `−1` -/
example : ddx ((0, 0) : ℝ × ℝ) (1, 0) (0, 1) 0 1 0 = -1 := by
  simp [ddx, areas2, csub]

/-- a 2-vertex system with landmark `1 ↦ 5`: the hypotheses of `lbs_eliminate_spec` are satisfiable -/
example : Coo.mulVec (lbsEliminate ([((0, 0), 2), ((0, 1), -2), ((1, 0), -2), ((1, 1), 2)] : Coo ℝ) [1])
    (fun i => if i = 1 then 5 else 5) 1 = 5 :=
  lbsEliminate_row _ [1] (by simp) _ (by simp)

/-- … and its solution `x = (5,5)`: the full hypothesis `A' x = b` of `lbs_eliminate_spec` holds, so the theorem
    applies non-vacuously -/
example : ∀ i, i < 2 →
    Coo.mulVec (lbsEliminate ([((0, 0), 2), ((0, 1), -2), ((1, 0), -2), ((1, 1), 2)] : Coo ℝ) [1]) (fun _ => 5) i =
      (lbsRhs ([((0, 0), 2), ((0, 1), -2), ((1, 0), -2), ((1, 1), 2)] : Coo ℝ) 2 [1] [5]).getD i 0 := by
  intro i hi
  have : i = 0 ∨ i = 1 := by omega
  rcases this with rfl | rfl
  · simp [lbsEliminate, lbsRhs, Coo.mulVec, List.range, List.range.loop, List.idxOf?, List.findIdx?, List.findIdx?.go,
      one_real]
  · rw [lbsEliminate_row _ [1] (by simp) _ (by simp)]
    exact (lbsRhs_landmark _ 2 [1] [5] (by simp) 0 (by simp) (by simp)).symm

end Examples

end LapyVerif.Props.C18
