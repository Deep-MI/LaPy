import Mathlib.Algebra.BigOperators.Group.Finset.Basic
import Mathlib.Algebra.BigOperators.Ring.Finset
import LapyVerif.Lemmas.CooRows
import LapyVerif.Model.Heat
/-
  C07 — heat diffusion is a conservative implicit Euler step; the kernel is the spectral sum.
  Worked instances (an explicit solution of one step, a 2×2 kernel): `Props/Examples.lean`.
-/
namespace LapyVerif.Props.C07

/-- **conservation of total heat.**  If `u` solves the backward-Euler system `(B + tA) u = b` (row by row, rows `< n`),
    the stiffness form is symmetric and annihilates constants (C01), then `1ᵀ B u = Σ_i b_i`; with the lumped
    (diagonal) `B` this is `Σ_i B_ii u_i`.  Here `b` is any function; for the seed vector `seedVec_sum` below counts
    the seeds, the two statements are not joined. -/
theorem heat_conservation (t : ℝ) (A B : Coo ℝ) (u b : Nat → ℝ) (n : Nat)
    (hA : ∀ e ∈ A, e.1.1 < n) (hB : ∀ e ∈ B, e.1.1 < n)
    (hsymm : ∀ f g, Coo.form A f g = Coo.form A g f) (hconst : ∀ i, Coo.mulVec A (fun _ => 1) i = 0)
    (hsolve : ∀ i < n, Coo.mulVec (Heat.heatMat t A B) u i = b i) :
    Coo.form B (fun _ => 1) u = ∑ i ∈ Finset.range n, b i := by
  have hH : ∀ e ∈ Heat.heatMat t A B, e.1.1 < n := by
    intro e he
    simp only [Heat.heatMat, List.mem_append, List.mem_map] at he
    rcases he with h | ⟨e', h', rfl⟩
    · exact hB e h
    · exact hA e' h'
  -- `1ᵀ A u = uᵀ A 1 = 0`, so `1ᵀ B u = 1ᵀ (B + tA) u`, which is the sum of the rows of the system
  have hA0 : Coo.form A (fun _ => 1) u = 0 := by
    rw [hsymm, Coo.form_eq_sum_mulVec A u _ n hA]
    exact Finset.sum_eq_zero fun i _ => by rw [hconst i, mul_zero]
  have h1 := Coo.form_eq_sum_mulVec (Heat.heatMat t A B) (fun _ => 1) u n hH
  rw [Coo.form_heatMat, hA0, mul_zero, add_zero] at h1
  rw [h1]
  exact Finset.sum_congr rfl fun i hi => by rw [one_mul, hsolve i (Finset.mem_range.mp hi)]

/-- the seed vector sums to the number of seeded vertices (a vertex seeded twice counts once) -/
theorem seedVec_sum (nv : Nat) (vids : List Nat) :
    (Heat.seedVec (K := ℝ) nv vids).sum = (((List.range nv).filter fun i => vids.contains i).length : ℝ) := by
  rw [Heat.seedVec, ← List.sum_map_filter]
  simp only [List.map_const', List.sum_replicate, nsmul_eq_mul, Nat.cast_one, mul_one]

/-- **`kernel` is the spectral sum** `Σ_{j<n} e^{−λ_j t} φ_j(p) φ_j(q)` -/
theorem kernel_entry (ts : List ℝ) (q : Nat) (evecs : List (List ℝ)) (evals : List ℝ) (n p s : Nat)
    (hp : p < evecs.length) (hs : s < ts.length) :
    ((Heat.kernel ts q evecs evals n).getD p []).getD s 0 =
      ((((evecs.getD p []).take n).zip ((evals.take n).zip ((evecs.getD q []).take n))).map fun x =>
        x.1 * (Real.exp (-x.2.1 * ts.getD s 0) * x.2.2)).sum := by
  simp [Heat.kernel, List.getD_eq_getElem?_getD, hp, hs]

theorem spectral_sum_symm (a b lam : List ℝ) (t : ℝ) :
    ((a.zip (lam.zip b)).map fun x => x.1 * (Real.exp (-x.2.1 * t) * x.2.2)).sum =
    ((b.zip (lam.zip a)).map fun x => x.1 * (Real.exp (-x.2.1 * t) * x.2.2)).sum := by
  induction a generalizing b lam with
  | nil => cases b <;> cases lam <;> simp
  | cons x a ih =>
    cases lam with
    | nil => cases b <;> simp
    | cons l lam =>
      cases b with
      | nil => simp
      | cons y b =>
        simp only [List.zip_cons_cons, List.map_cons, List.sum_cons, ih]
        ring

theorem kernel_symm (ts : List ℝ) (evecs : List (List ℝ)) (evals : List ℝ) (n p q s : Nat)
    (hp : p < evecs.length) (hq : q < evecs.length) (hs : s < ts.length) :
    ((Heat.kernel ts q evecs evals n).getD p []).getD s 0 = ((Heat.kernel ts p evecs evals n).getD q []).getD s 0 := by
  rw [kernel_entry ts q evecs evals n p s hp hs, kernel_entry ts p evecs evals n q s hq hs]
  exact spectral_sum_symm _ _ _ _

/-- `diagonal(t, x, …)` is the kernel at `p = q = x` -/
theorem diagonal_eq_kernel (ts : List ℝ) (xs : List Nat) (evecs : List (List ℝ)) (evals : List ℝ) (n k s : Nat)
    (hk : k < xs.length) (hx : xs.getD k 0 < evecs.length) (hs : s < ts.length) :
    ((Heat.diagonal ts xs evecs evals n).getD k []).getD s 0 =
      ((Heat.kernel ts (xs.getD k 0) evecs evals n).getD (xs.getD k 0) []).getD s 0 := by
  rw [kernel_entry ts _ evecs evals n _ s hx hs]
  simp only [Heat.diagonal, List.getD_eq_getElem?_getD, List.getElem?_map, hk, hs, List.getElem?_eq_getElem,
    Option.map_some, Option.getD_some, exp_real]
  -- zipping a row with itself across the eigenvalues is zipping it with the eigenvalues; `kernel` writes `exp (-λ * t)`,
  -- `diagonal` `exp (-(λ * t))`, as heat.py does (lines 79, 43)
  rw [List.zip_eq_zipWith, List.zip_eq_zipWith, List.zip_eq_zipWith, List.map_zipWith, List.map_zipWith,
    List.zipWith_zipWith_right, List.zipWith3_same_mid]
  simp only [neg_mul, mul_comm (Real.exp _), mul_assoc]

end LapyVerif.Props.C07
