import LapyVerif.Lemmas.Isometry
import LapyVerif.Lemmas.FemTri
import LapyVerif.Lemmas.MeasureLemmas
import LapyVerif.Lemmas.ListAux
import LapyVerif.Model.Measures
/-
  C13 — geometric measures obey their defining formulas and transformation laws.
  Model: `Measures.*` (tied to `lapy/tria_mesh.py` by `Bridge/Measures.lean` and the differential check).

  Here: Heron = cross-product area, `area`, the guards and sign laws of `volume`, unit normals, qualities, similarity laws.
  Elsewhere: the normal sum of a closed mesh in `Props/C13b`; `normalize_` in `Props/C19`
  (`centroid_affine`, `normalize_spec`); `vertex_areas` in `Props/C15` (`vertexAreas_eq`, `t2v_one_eq_vertexAreas`);
  all measures under refinement in `Props/C11`.  Vertex normals, `normal_offset_` and the average edge length have no
  theorem: they are tied to the code by the bridge and the differential check only.  Worked instances: `Props/Examples`.
-/
namespace LapyVerif.Props.C13
open V3

/-! ### Heron = half the cross-product length -/

theorem heron_poly (v0 v1 v2 : V3 ℝ) :
    2 * normSq (v1 - v0) * normSq (v2 - v1) + 2 * normSq (v2 - v1) * normSq (v0 - v2)
        + 2 * normSq (v0 - v2) * normSq (v1 - v0) - normSq (v1 - v0) * normSq (v1 - v0)
        - normSq (v2 - v1) * normSq (v2 - v1) - normSq (v0 - v2) * normSq (v0 - v2)
      = 4 * normSq (cross (v1 - v0) (v2 - v0)) := by
  -- in the two edges `a`, `b` at `v0`: the sides are `a`, `b − a`, `−b`, and `‖a×b‖² = ‖a‖²‖b‖² − (a·b)²`
  rw [sub_eq_sub_sub_sub v0 v1 v2, ← V3.neg_sub v2 v0]
  generalize v1 - v0 = a
  generalize v2 - v0 = b
  rw [normSq_cross]
  simp only [normSq, dot_sub_left, dot_sub_right, dot_neg_left, dot_neg_right, dot_comm b a]
  ring

theorem heron_scalar (a b c : ℝ) :
    1 / 2 * (a + b + c) * (1 / 2 * (a + b + c) - a) * (1 / 2 * (a + b + c) - b) * (1 / 2 * (a + b + c) - c)
      = (2 * (a * a) * (b * b) + 2 * (b * b) * (c * c) + 2 * (c * c) * (a * a) - a * a * (a * a) - b * b * (b * b)
          - c * c * (c * c)) / 16 := by
  ring

/-- **`tria_areas` (Heron's formula) equals `½‖(v1−v0)×(v2−v0)‖`** for every triangle, degenerate ones included -/
theorem heron_eq_cross (v0 v1 v2 : V3 ℝ) : Measures.heron v0 v1 v2 = Spec.triArea v0 v1 v2 := by
  simp only [Measures.heron, Spec.triArea, Spec.triN, sqrt_real, Measures.c, Nat.cast_one, Nat.cast_ofNat]
  rw [heron_scalar, Real.mul_self_sqrt (normSq_nonneg _), Real.mul_self_sqrt (normSq_nonneg _),
    Real.mul_self_sqrt (normSq_nonneg _), heron_poly,
    show 4 * normSq (cross (v1 - v0) (v2 - v0)) / 16 = normSq (cross (v1 - v0) (v2 - v0)) / (2 * 2) by ring,
    Real.sqrt_div' _ (by positivity), Real.sqrt_mul_self (by norm_num)]

theorem triAreas_eq (vtx : Nat → V3 ℝ) (ts : List Tri) :
    Measures.triAreas vtx ts = ts.map fun τ => Spec.triArea (vtx τ.1) (vtx τ.2.1) (vtx τ.2.2) :=
  List.map_congr_left fun _ _ => heron_eq_cross _ _ _

/-- `area()` is the sum of the cross-product areas, i.e. of the element areas used by the FEM matrices -/
theorem area_eq_sum (vtx : Nat → V3 ℝ) (ts : List Tri) :
    Measures.area vtx ts = (ts.map fun τ => Spec.triArea (vtx τ.1) (vtx τ.2.1) (vtx τ.2.2)).sum :=
  congrArg List.sum (triAreas_eq vtx ts)

/-- the centre of a triangle weighted by its share `area / T` of the total: one summand of `centroid()` -/
noncomputable def weightedCentre (T : ℝ) (a b c : V3 ℝ) : V3 ℝ :=
  smul (Spec.triArea a b c / T) (smul (1 / 3) (a + b + c))

/-- **`centroid()` returns the area-weighted mean of the triangle centres and `area()`**: the area it inlines,
    `½‖(v2−v1)×(v0−v2)‖`, is the cross-product area.  `C11.refine_centroid` and `C19.centroid_affine` start from this form. -/
theorem centroid_eq (vtx : Nat → V3 ℝ) (ts : List Tri) :
    Measures.centroid vtx ts =
      ((ts.map fun τ => weightedCentre (Measures.area vtx ts) (vtx τ.1) (vtx τ.2.1) (vtx τ.2.2)).sum,
        Measures.area vtx ts) := by
  have hw : ∀ v0 v1 v2 : V3 ℝ, (Measures.c 1 / Measures.c 2) * sqrt (normSq (cross (v2 - v1) (v0 - v2)))
      = Spec.triArea v0 v1 v2 := fun v0 v1 v2 => by
    rw [show cross (v2 - v1) (v0 - v2) = Spec.triN v0 v1 v2 from FemTri.triCr_eq_triN v0 v1 v2, Spec.triArea,
      Measures.c, Measures.c, sqrt_real]
    push_cast; ring
  simp only [Measures.centroid, hw, List.zip_map_self, List.map_map, foldl_add, Function.comp_def]
  rw [← area_eq_sum]
  refine Prod.ext ((V3.zero_add _).trans ?_) rfl
  simp only [weightedCentre, Measures.c]
  push_cast
  rfl

/-! ### volume -/

theorem volume_open (vtx : Nat → V3 ℝ) (ts : List Tri) (h : Topo.isClosed ts = false) :
    Measures.volume vtx ts = .ok 0 :=
  Measures.volume_of_not_closed vtx h

theorem volume_unoriented (vtx : Nat → V3 ℝ) (ts : List Tri) (hc : Topo.isClosed ts = true) (ho : Topo.isOriented ts = false) :
    Measures.volume vtx ts = .error "ValueError" :=
  Measures.volume_of_unoriented vtx hc ho

theorem volume_closed (vtx : Nat → V3 ℝ) (ts : List Tri) (hc : Topo.isClosed ts = true) (ho : Topo.isOriented ts = true) :
    Measures.volume vtx ts = .ok (Measures.volumeSum vtx ts) :=
  Measures.volume_of_closed_oriented vtx hc ho

theorem volumeSum_flip (vtx : Nat → V3 ℝ) (ts : List Tri) :
    Measures.volumeSum vtx (ts.map fun τ => (τ.1, τ.2.2, τ.2.1)) = - Measures.volumeSum vtx ts :=
  Measures.volumeSum_swap12 vtx ts

theorem volumeSum_scale (vtx : Nat → V3 ℝ) (ts : List Tri) (s : ℝ) :
    Measures.volumeSum (fun i => smul s (vtx i)) ts = s * s * s * Measures.volumeSum vtx ts := by
  -- each summand is the triple product of the corner positions, and that is trilinear
  simp only [Measures.volumeSum, dot_cross_sub_sub, dot_smul_left, dot_smul_right, cross_smul_left, cross_smul_right,
    List.sum_map_mul_left]
  ring

/-! ### normals -/

/-- complement of the guard `ln < eps` -/
def NonDegenN (v0 v1 v2 : V3 ℝ) : Prop := ¬ (Real.sqrt (normSq (cross (v1 - v0) (v2 - v0))) < epsK)

theorem triNormal_eq (v0 v1 v2 : V3 ℝ) (h : NonDegenN v0 v1 v2) :
    Measures.triNormal v0 v1 v2 = smul (1 / Real.sqrt (normSq (cross (v1 - v0) (v2 - v0)))) (cross (v1 - v0) (v2 - v0)) := by
  simp only [Measures.triNormal, Measures.guard1, sqrt_real, if_neg h]
  exact mk_div _ _

/-- unit length, orthogonal to the triangle, a *positive* multiple of `(v1−v0)×(v2−v0)` (follows the winding) -/
theorem triNormal_spec (v0 v1 v2 : V3 ℝ) (h : NonDegenN v0 v1 v2) :
    normSq (Measures.triNormal v0 v1 v2) = 1 ∧
    dot (Measures.triNormal v0 v1 v2) (v1 - v0) = 0 ∧ dot (Measures.triNormal v0 v1 v2) (v2 - v0) = 0 ∧
    ∃ c : ℝ, 0 < c ∧ Measures.triNormal v0 v1 v2 = smul c (cross (v1 - v0) (v2 - v0)) := by
  have hs : 0 < Real.sqrt (normSq (cross (v1 - v0) (v2 - v0))) := lt_of_lt_of_le epsK_pos (not_lt.mp h)
  rw [triNormal_eq v0 v1 v2 h]
  exact ⟨normSq_normalize (Real.sqrt_pos.mp hs), by rw [dot_smul_left, dot_cross_self_left, mul_zero],
    by rw [dot_smul_left, dot_cross_self_right, mul_zero], _, one_div_pos.mpr hs, rfl⟩

/-! ### qualities -/

theorem weitzenboeck (v0 v1 v2 : V3 ℝ) :
    let A := normSq (v1 - v0); let B := normSq (v2 - v1); let C := normSq (v0 - v2)
    (A + B + C) * (A + B + C) - 12 * normSq (cross (v1 - v0) (v2 - v0))
      = 2 * ((A - B) * (A - B) + (B - C) * (B - C) + (C - A) * (C - A)) := by
  intro A B C
  linarith [heron_poly v0 v1 v2]

/-- the real-number core of the quality bound: `q² = S² − 2D` with `D ≥ 0` a sum of squares -/
theorem quality_core {S D N q : ℝ} (hS : 0 ≤ S) (hD : 0 ≤ D) (hq : 0 < q) (hqq : q * q = 12 * N)
    (hw : S * S - 12 * N = 2 * D) : 0 < S ∧ q ≤ S ∧ (q = S ↔ D = 0) := by
  have hSS : S * S = q * q + 2 * D := by linarith
  have hpos : 0 < S * S := by linarith [mul_pos hq hq]
  refine ⟨hS.lt_of_ne' (mul_self_pos.mp hpos), (mul_self_le_mul_self_iff hq.le hS).mpr (by linarith), ?_⟩
  rw [← mul_self_inj hq.le hS, hSS]
  constructor <;> intro h <;> linarith

theorem sum_sq3_eq_zero {x y z : ℝ} : x * x + y * y + z * z = 0 ↔ x = 0 ∧ y = 0 ∧ z = 0 := by
  constructor
  · exact fun h => normSq_eq_zero (a := ⟨x, y, z⟩) h
  · rintro ⟨rfl, rfl, rfl⟩; ring

theorem triQuality_eq (v0 v1 v2 : V3 ℝ) : Measures.triQuality v0 v1 v2 =
    2 * Real.sqrt 3 * Real.sqrt (normSq (cross (v1 - v0) (v2 - v0))) /
      (normSq (v1 - v0) + normSq (v2 - v1) + normSq (v0 - v2)) := by
  unfold Measures.triQuality
  simp only [V3.neg_sub, sqrt_real, Measures.c]
  push_cast
  rfl

/-- qualities lie in `(0, 1]` for non-degenerate triangles and equal 1 exactly for equilateral ones -/
theorem quality_range (v0 v1 v2 : V3 ℝ) (hN : 0 < normSq (cross (v1 - v0) (v2 - v0))) :
    0 < Measures.triQuality v0 v1 v2 ∧ Measures.triQuality v0 v1 v2 ≤ 1 ∧
    (Measures.triQuality v0 v1 v2 = 1 ↔
      normSq (v1 - v0) = normSq (v2 - v1) ∧ normSq (v2 - v1) = normSq (v0 - v2)) := by
  have hw := weitzenboeck v0 v1 v2
  have h3 : 0 < Real.sqrt 3 := Real.sqrt_pos.mpr (by norm_num)
  have h33 : Real.sqrt 3 * Real.sqrt 3 = 3 := Real.mul_self_sqrt (by norm_num)
  have hs : 0 < Real.sqrt (normSq (cross (v1 - v0) (v2 - v0))) := Real.sqrt_pos.mpr hN
  have hss := Real.mul_self_sqrt hN.le
  have hq : 0 < 2 * Real.sqrt 3 * Real.sqrt (normSq (cross (v1 - v0) (v2 - v0))) := by positivity
  have hqq : 2 * Real.sqrt 3 * Real.sqrt (normSq (cross (v1 - v0) (v2 - v0))) *
      (2 * Real.sqrt 3 * Real.sqrt (normSq (cross (v1 - v0) (v2 - v0)))) = 12 * normSq (cross (v1 - v0) (v2 - v0)) := by
    rw [mul_mul_mul_comm, hss, mul_mul_mul_comm, h33]; norm_num
  obtain ⟨hE, hle, hiff⟩ := quality_core
    (add_nonneg (add_nonneg (normSq_nonneg (v1 - v0)) (normSq_nonneg (v2 - v1))) (normSq_nonneg (v0 - v2)))
    (add_nonneg (add_nonneg (mul_self_nonneg _) (mul_self_nonneg _)) (mul_self_nonneg _)) hq hqq hw
  rw [triQuality_eq]
  refine ⟨div_pos hq hE, (div_le_one hE).mpr hle, ?_⟩
  rw [div_eq_one_iff_eq hE.ne', hiff, sum_sq3_eq_zero, sub_eq_zero, sub_eq_zero, sub_eq_zero]
  exact ⟨fun h => ⟨h.1, h.2.1⟩, fun h => ⟨h.1, h.2, (h.1.trans h.2).symm⟩⟩

/-! ### transformation laws of the per-element measures -/

theorem triArea_similarity {s : ℝ} {T : V3 ℝ → V3 ℝ} (h : IsSimilarity s T) (v0 v1 v2 : V3 ℝ) :
    Spec.triArea (T v0) (T v1) (T v2) = s * s * Spec.triArea v0 v1 v2 := by
  rw [Spec.triArea, Spec.triN, sim_sqrt_cross h, mul_div_assoc]
  rfl

theorem heron_similarity {s : ℝ} {T : V3 ℝ → V3 ℝ} (h : IsSimilarity s T) (v0 v1 v2 : V3 ℝ) :
    Measures.heron (T v0) (T v1) (T v2) = s * s * Measures.heron v0 v1 v2 := by
  rw [heron_eq_cross, heron_eq_cross, triArea_similarity h]

theorem area_similarity {s : ℝ} {T : V3 ℝ → V3 ℝ} (h : IsSimilarity s T) (vtx : Nat → V3 ℝ) (ts : List Tri) :
    Measures.area (fun i => T (vtx i)) ts = s * s * Measures.area vtx ts := by
  unfold Measures.area Measures.triAreas
  rw [← List.sum_map_mul_left]
  exact congrArg List.sum (List.map_congr_left fun τ _ => heron_similarity h _ _ _)

theorem quality_similarity {s : ℝ} {T : V3 ℝ → V3 ℝ} (h : IsSimilarity s T) (hs : s ≠ 0) (v0 v1 v2 : V3 ℝ) :
    Measures.triQuality (T v0) (T v1) (T v2) = Measures.triQuality v0 v1 v2 := by
  rw [triQuality_eq, triQuality_eq, sim_sqrt_cross h, sim_normSq h, sim_normSq h, sim_normSq h, mul_left_comm _ (s * s),
    ← mul_add, ← mul_add, mul_div_mul_left _ _ (mul_ne_zero hs hs)]

end LapyVerif.Props.C13
