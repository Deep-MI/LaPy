import LapyVerif.Model.Topo
/-
  Model of `TriaMesh.level_length` and `TriaMesh.level_path` (incl. `__reduce_edges_to_path`, `__resample_polygon`).
-/
namespace LapyVerif
namespace Level
open V3

variable {K : Type} [Zero K] [Add K] [Sub K] [Mul K] [Div K] [Neg K] [NatCast K] [HasSqrt K]
variable [LT K] [DecidableRel (α := K) (· < ·)]

def one : K := ((1 : Nat) : K)

/-- for one triangle: the isolated corner (index 0/1/2 inside the triple) if the level separates the corners 1:2 -/
def isolated (f0 f1 f2 level : K) : Option Nat :=
  let b0 := decide (level < f0); let b1 := decide (level < f1); let b2 := decide (level < f2)
  let cnt := b0.toNat + b1.toNat + b2.toNat
  if cnt == 1 then (if b0 then some 0 else if b1 then some 1 else some 2)          -- argmax of the flags
  else if cnt == 2 then (if !b0 then some 0 else if !b1 then some 1 else some 2)    -- flags inverted first
  else none

def nth3 (τ : Tri) (k : Nat) : Nat := if k % 3 == 0 then τ.1 else if k % 3 == 1 then τ.2.1 else τ.2.2

/-- crossed triangles with `(tria index, gidx0, gidx1, gidx2)` -/
def crossed (ts : List Tri) (f : Nat → K) (level : K) : List (Nat × Nat × Nat × Nat) :=
  (ts.zipIdx).filterMap fun (τ, k) =>
    (isolated (f τ.1) (f τ.2.1) (f τ.2.2) level).map fun s => (k, nth3 τ s, nth3 τ (s + 1), nth3 τ (s + 2))

/-- point on the edge `(a,b)` at the level: `(1-x) v_a + x v_b`, `x = (level - f_a)/(f_b - f_a)` -/
def crossPoint (vtx : Nat → V3 K) (f : Nat → K) (level : K) (a b : Nat) : V3 K :=
  let x := (level - f a) / (f b - f a)
  smul (one - x) (vtx a) + smul x (vtx b)

def dist (p q : V3 K) : K := sqrt (normSq (p - q))

/-- `level_length` for one level -/
def levelLength (vtx : Nat → V3 K) (ts : List Tri) (f : Nat → K) (level : K) : K :=
  ((crossed ts f level).map fun (_, g0, g1, g2) =>
    dist (crossPoint vtx f level g0 g1) (crossPoint vtx f level g0 g2)).sum

/-! ### `level_path` -/

def sortPair (a b : Nat) : Nat × Nat := (min a b, max a b)

structure PathData (K : Type) where
  edges : List (Nat × Nat)            -- `gg_unique`: sorted unique crossed mesh edges (one point each)
  pts : List (V3 K)                   -- `p`
  segs : List (Nat × Nat × Nat)       -- per crossed triangle: (tria index, point index on edge 1, on edge 2)
  length : K                          -- `llength`

def pathData (vtx : Nat → V3 K) (ts : List Tri) (f : Nat → K) (level : K) : PathData K :=
  let cr := crossed ts f level
  let gg1 := cr.map fun (_, g0, g1, _) => sortPair g0 g1
  let gg2 := cr.map fun (_, g0, _, g2) => sortPair g0 g2
  let uniq := ((gg1 ++ gg2).eraseDups).mergeSort (fun a b => Topo.lexLe a b)
  let pts := uniq.map fun e => crossPoint vtx f level e.1 e.2
  let idx := fun e => (uniq.idxOf? e).getD 0
  let segs := (cr.zip (gg1.zip gg2)).map fun ((k, _), (e1, e2)) => (k, idx e1, idx e2)
  let len := (segs.map fun (_, a, b) => dist (pts.getD a ⟨0, 0, 0⟩) (pts.getD b ⟨0, 0, 0⟩)).sum
  { edges := uniq, pts := pts, segs := segs, length := len }

/-- breadth-first distances from `start` in the undirected graph with edge list `es` on `n` nodes (`none` = unreachable).
    Stands in for the external call `scipy.sparse.csgraph.shortest_path(…, indices=start_idx)` (unweighted) in
    `__reduce_edges_to_path`, whose contract is the exact graph distances (`inf` = unreachable); there is no
    breadth-first search in the Python source. -/
def bfs (n : Nat) (es : List (Nat × Nat)) (start : Nat) : List (Option Nat) :=
  let nbr := fun i => es.filterMap fun e => if e.1 == i then some e.2 else if e.2 == i then some e.1 else none
  let rec go (fuel : Nat) (frontier : List Nat) (d : Nat) (dist : List (Option Nat)) : List (Option Nat) :=
    match fuel with
    | 0 => dist
    | fuel + 1 =>
      if frontier.isEmpty then dist
      else
        let next := ((frontier.flatMap nbr).eraseDups).filter fun j => (dist.getD j none).isNone
        let dist' := dist.zipIdx.map fun (x, j) => if next.contains j then some (d + 1) else x
        go fuel next (d + 1) dist'
  go n [start] 0 ((List.range n).map fun j => if j == start then some 0 else none)

inductive PathResult (K : Type) where
  | ok (pts : List (V3 K)) (length : K) (tria : List Nat)
  | valueError

/-- `__reduce_edges_to_path` + removal of near-duplicate points; the triangle index of each kept segment -/
def levelPath (vtx : Nat → V3 K) (ts : List Tri) (f : Nat → K) (level : K) : PathResult K :=
  let pd := pathData vtx ts f level
  let es := pd.segs.map fun (_, a, b) => (a, b)
  if es.isEmpty then .valueError else
  let n := (es.foldl (fun m e => max m (max e.1 e.2)) 0) + 1
  let deg := fun i => (es.filter fun e => e.1 == i).length + (es.filter fun e => e.2 == i).length
  let ends := (List.range n).filter fun i => deg i == 1
  if ends.length != 2 then .valueError else
  let start := ends.headD 0
  let d := bfs n es start
  if d.any (·.isNone) then .valueError else
  -- argsort of the distances (distinct on a simple path; ties broken by index)
  let order := ((List.range n).map fun i => ((d.getD i none).getD 0, i)).mergeSort (fun a b => Topo.lexLe a b) |>.map (·.2)
  let path3d := order.map fun i => pd.pts.getD i ⟨0, 0, 0⟩
  -- triangle of each consecutive pair (the segment joining them); for a pair that is not joined the source reads
  -- `t_idx[-1]`, here it is `none` and then index 0: the value is arbitrary unless the segment graph is a path
  let segOf := fun (a b : Nat) => (pd.segs.find? fun s => (s.2.1 == a && s.2.2 == b) || (s.2.1 == b && s.2.2 == a)).map (·.1)
  let pairs := order.zip (order.drop 1)
  let trias := pairs.map fun (a, b) => (segOf a b).getD 0
  -- drop a point whose squared distance to its successor is ≤ 1e-6 (the last point is always kept)
  let eps : K := one / ((1000000 : Nat) : K)
  let dd := (path3d.zip (path3d.drop 1)).map fun (p, q) => normSq (p - q)
  let keepFlags := dd.map fun x => decide (eps < x)
  let kept := ((path3d.zip (keepFlags ++ [true])).filter (·.2)).map (·.1)
  let keptTri := ((trias.zip keepFlags).filter (·.2)).map (·.1)
  .ok kept pd.length keptTri

/-! ### resampling -/

/-- `np.interp(x, xp, fp)` for increasing `xp`: left value up to `xp[0]`, linear on `[xp[j], xp[j+1])`, right value from `xp[-1]` -/
def interp (xp fp : List K) (x : K) : K :=
  let rec go : List K → List K → K
    | x0 :: x1 :: xs, f0 :: f1 :: fs =>
      if x < x1 then ((f1 - f0) / (x1 - x0)) * (x - x0) + f0
      else if xs.isEmpty then f1 else go (x1 :: xs) (f1 :: fs)
    | _, f0 :: _ => f0
    | _, [] => 0
  match xp, fp with
  | x0 :: _, f0 :: _ => if ¬ (x0 < x) then f0 else go xp fp
  | _, _ => 0

/-- one pass of `__resample_polygon` -/
def resample1 (path : List (V3 K)) (n : Nat) : List (V3 K) :=
  let segl := (path.zip (path.drop 1)).map fun (p, q) => dist q p
  let d := segl.foldl (fun acc x => acc ++ [acc.getLastD 0 + x]) [(0 : K)]
  let dmax := d.getLastD 0
  -- `np.linspace(0, d.max(), n)` for `n ≥ 2`: the last sample is `stop` itself, not `(n-1) * step`
  -- (for `n = 1` numpy returns `[0.]`, this list is `[dmax]`; the theorems assume `2 ≤ n`)
  let samples := (List.range n).map fun i =>
    if i + 1 == n then dmax else (((i : Nat) : K)) * (dmax / (((n - 1 : Nat)) : K))
  samples.map fun s => ⟨interp d (path.map (·.x)) s, interp d (path.map (·.y)) s, interp d (path.map (·.z)) s⟩

/-- `__iterative_resample_polygon` with `n_iter = 3` -/
def resample (path : List (V3 K)) (n : Nat) : List (V3 K) :=
  resample1 (resample1 (resample1 path n) n) n

end Level
end LapyVerif
