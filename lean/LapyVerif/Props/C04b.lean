import Mathlib.Analysis.SpecialFunctions.Pow.Real
import LapyVerif.Props.C04
import LapyVerif.Props.C03
import LapyVerif.Model.Spectral
/-
  C04b — the executable model of the `shapedna.py` glue (`Model/Spectral.lean`) computes the functions the C04 theorems
  are about; scale invariance of the normalised spectrum.
-/
namespace LapyVerif

-- not in `Lemmas/RealInst` with the other scalar classes: `Real.rpow` needs `Mathlib.Analysis.SpecialFunctions.Pow.Real`
noncomputable instance : HasRpow ℝ := ⟨Real.rpow⟩

@[simp] theorem rpow_real (x y : ℝ) : HasRpow.rpow x y = x ^ y := rfl

namespace Props.C04

/-- the model's `reweight_ev` is the `reweight` of C04 (`((i+1 : ℕ) : ℝ) = (i : ℝ) + 1`) -/
theorem spectral_reweight_eq (ev : List ℝ) : Spectral.reweight ev = reweight ev := by
  unfold Spectral.reweight reweight
  apply List.map_congr_left
  rintro ⟨x, i⟩ _
  simp only []
  push_cast
  rfl

theorem spectral_distance_eq (a b : List ℝ) : Spectral.distance a b = dist a b := by
  unfold Spectral.distance dist
  simp only [sqrt_real]
  congr 2
  apply List.map_congr_left
  intro p _
  ring

theorem pow23_real (vol : ℝ) : Spectral.pow23 vol = vol ^ ((2 : ℝ) / 3) := by
  simp only [Spectral.pow23, rpow_real]; push_cast; rfl

theorem normalizeEv_spec (ev : List ℝ) (area vol : ℝ) :
    (∀ isTet, Spectral.normalizeEv .surface isTet ev area vol = ev.map (· * area)) ∧
    (∀ isTet, Spectral.normalizeEv .volume isTet ev area vol = ev.map (· * vol ^ ((2 : ℝ) / 3))) ∧
    Spectral.normalizeEv .geometry false ev area vol = ev.map (· * area) ∧
    Spectral.normalizeEv .geometry true ev area vol = ev.map (· * vol ^ ((2 : ℝ) / 3)) := by
  simp [Spectral.normalizeEv, pow23_real]

/-- **scaled copies get the same normalised spectrum**: eigenvalues `λ/s²`, area `s²·area`, volume `s³·vol` -/
theorem normalizeEv_scale (m : Spectral.Method) (isTet : Bool) (ev : List ℝ) (s area vol : ℝ) (hs : 0 < s)
    (hvol : 0 < vol) :
    Spectral.normalizeEv m isTet (ev.map (· / (s * s))) (s * s * area) (s * s * s * vol)
      = Spectral.normalizeEv m isTet ev area vol := by
  have key : ∀ lam : ℝ, lam / (s * s) * (s * s * area) = lam * area ∧
      lam / (s * s) * Spectral.pow23 (s * s * s * vol) = lam * Spectral.pow23 vol := by
    intro lam
    rw [pow23_real, pow23_real]
    exact normalize_ev_scale s lam area vol hs hvol
  have h1 : (ev.map (· / (s * s))).map (· * (s * s * area)) = ev.map (· * area) := by
    rw [List.map_map]; exact List.map_congr_left fun lam _ => (key lam).1
  have h2 : (ev.map (· / (s * s))).map (· * Spectral.pow23 (s * s * s * vol)) = ev.map (· * Spectral.pow23 vol) := by
    rw [List.map_map]; exact List.map_congr_left fun lam _ => (key lam).2
  cases m <;> cases isTet <;> simp only [Spectral.normalizeEv, h1, h2, Bool.false_eq_true, if_false, if_true]

theorem dictFields_spec (isTet : Bool) (nElems nVerts k : Nat) :
    (Spectral.dictFields isTet nElems nVerts k).lookup "Elements" = some nElems ∧
    (Spectral.dictFields isTet nElems nVerts k).lookup "DoF" = some nVerts ∧
    (Spectral.dictFields isTet nElems nVerts k).lookup "NumEW" = some k ∧
    (Spectral.dictFields isTet nElems nVerts k).lookup "Dimension" = some (if isTet then 3 else 2) ∧
    (Spectral.dictFields isTet nElems nVerts k).lookup "Refine" = some 0 ∧
    (Spectral.dictFields isTet nElems nVerts k).lookup "Degree" = some 1 ∧
    (Spectral.dictFields isTet nElems nVerts k).map (·.1) = ["Refine", "Degree", "Dimension", "Elements", "DoF", "NumEW"] :=
  ⟨rfl, rfl, rfl, rfl, rfl, rfl, rfl⟩

theorem spectral_shiftMat_eq (σ : ℝ) (A B : Coo ℝ) : Spectral.shiftMat σ A B = C03.shiftMat σ A B := rfl

example : Spectral.reweight ([2, 4, 9] : List ℝ) = [2, 2, 3] := by
  rw [spectral_reweight_eq]; simp [reweight, List.zipIdx]; norm_num

example : Spectral.distance ([1, 2] : List ℝ) [4, 6] = 5 := by
  rw [spectral_distance_eq]
  simp only [dist, List.zip_cons_cons, List.zip_nil_right, List.map_cons, List.map_nil, List.sum_cons, List.sum_nil]
  rw [show ((1 : ℝ) - 4) ^ 2 + ((2 - 6) ^ 2 + 0) = 5 * 5 by norm_num, Real.sqrt_mul_self (by norm_num)]

example : Spectral.normalizeEv .geometry true ([8] : List ℝ) 1 8 = [32] := by
  rw [(normalizeEv_spec [8] 1 8).2.2.2]
  have : (8 : ℝ) ^ ((2 : ℝ) / 3) = 4 := by
    rw [show (8 : ℝ) = 2 * 2 * 2 by norm_num, cube_rpow_two_thirds (by norm_num)]; norm_num
  simp [this]; norm_num

end Props.C04
end LapyVerif
