import LapyVerif.Lemmas.BridgeTac
import LapyVerif.Model.Heat
import LapyVerif.Model.Spectral
import LapyVerif.Model.Conformal
import LapyVerif.Generated.HeatKernel
import LapyVerif.Generated.Misc
/-
  Bridge: `heat.kernel`, `heat.diagonal` (lapy/heat.py), `inverse_stereographic` (lapy/conformal.py), `reweight_ev`
  (lapy/shapedna.py) and `TetMesh.avg_edge_length` (lapy/tet_mesh.py), traced on symbolic input, are the model's.
  The first two are traced in one module (`Gen.HeatKernel`), the other three in another (`Gen.Misc`); every definition of a module takes the
  module's full symbol list, so a statement also binds symbols it does not mention otherwise (`t1` in `heat_kernel_scalar`, `x y` in `misc_reweight`).
-/
namespace LapyVerif.Bridge

/-- **`heat.kernel(t, vfix = 1, evecs (3×3), evals, n = 2)`**, two times: the traced code is the model's spectral sum -/
theorem heat_kernel (e00 e01 e02 e10 e11 e12 e20 e21 e22 l0 l1 l2 t0 t1 : ℝ) :
    (Heat.kernel [t0, t1] 1 [[e00, e01, e02], [e10, e11, e12], [e20, e21, e22]] [l0, l1, l2] 2).flatten
      = Gen.HeatKernel.kernel e00 e01 e02 e10 e11 e12 e20 e21 e22 l0 l1 l2 t0 t1 := by
  simp only [Heat.kernel, List.getD_cons_succ, List.getD_cons_zero, List.take_succ_cons, List.take_zero, List.map_cons,
    List.map_nil, List.zip_cons_cons, List.zip_nil_right, List.sum_cons, List.sum_nil, List.flatten_cons, List.flatten_nil,
    List.cons_append, List.nil_append, List.append_nil, Gen.HeatKernel.kernel, exp_real]
  coo_entries <;>
  · simp only [Gen.HeatKernel.kernel_0, Gen.HeatKernel.kernel_1, Gen.HeatKernel.kernel_2, Gen.HeatKernel.kernel_3,
      Gen.HeatKernel.kernel_4, Gen.HeatKernel.kernel_5]
    ring

/-- scalar time, all three eigenpairs, `vfix = 0` -/
theorem heat_kernel_scalar (e00 e01 e02 e10 e11 e12 e20 e21 e22 l0 l1 l2 t0 t1 : ℝ) :
    (Heat.kernel [t0] 0 [[e00, e01, e02], [e10, e11, e12], [e20, e21, e22]] [l0, l1, l2] 3).flatten
      = Gen.HeatKernel.kernel1 e00 e01 e02 e10 e11 e12 e20 e21 e22 l0 l1 l2 t0 t1 := by
  simp only [Heat.kernel, List.getD_cons_zero, List.take_succ_cons, List.take_zero, List.map_cons,
    List.map_nil, List.zip_cons_cons, List.zip_nil_right, List.sum_cons, List.sum_nil, List.flatten_cons, List.flatten_nil,
    List.cons_append, List.nil_append, List.append_nil, Gen.HeatKernel.kernel1, exp_real]
  coo_entries <;>
  · simp only [Gen.HeatKernel.kernel1_0, Gen.HeatKernel.kernel1_1, Gen.HeatKernel.kernel1_2]
    ring

/-- **`heat.diagonal(t, x = [2, 0], evecs, evals, n = 2)`** -/
theorem heat_diagonal (e00 e01 e02 e10 e11 e12 e20 e21 e22 l0 l1 l2 t0 t1 : ℝ) :
    (Heat.diagonal [t0, t1] [2, 0] [[e00, e01, e02], [e10, e11, e12], [e20, e21, e22]] [l0, l1, l2] 2).flatten
      = Gen.HeatKernel.diagonal e00 e01 e02 e10 e11 e12 e20 e21 e22 l0 l1 l2 t0 t1 := by
  simp only [Heat.diagonal, List.getD_cons_succ, List.getD_cons_zero, List.take_succ_cons, List.take_zero, List.map_cons,
    List.map_nil, List.zip_cons_cons, List.zip_nil_right, List.sum_cons, List.sum_nil, List.flatten_cons, List.flatten_nil,
    List.cons_append, List.nil_append, List.append_nil, Gen.HeatKernel.diagonal, exp_real]
  coo_entries <;>
  · simp only [Gen.HeatKernel.diagonal_0, Gen.HeatKernel.diagonal_1, Gen.HeatKernel.diagonal_2, Gen.HeatKernel.diagonal_3]
    ring

/-- **`inverse_stereographic`** (two-column input) -/
theorem misc_invstereo (v0 v1 v2 v3 : V3 ℝ) (x y l0 l1 l2 l3 : ℝ) :
    (let p := Conformal.invStereo (x, y); [p.x, p.y, p.z]) = Gen.Misc.invstereo v0 v1 v2 v3 x y l0 l1 l2 l3 := by
  simp only [Conformal.invStereo, Conformal.one, Conformal.two, Gen.Misc.invstereo]
  coo_entries <;>
  · simp only [Gen.Misc.invstereo_0, Gen.Misc.invstereo_1, Gen.Misc.invstereo_2]
    push_cast
    ring

/-- **`reweight_ev`** on four eigenvalues -/
theorem misc_reweight (v0 v1 v2 v3 : V3 ℝ) (x y l0 l1 l2 l3 : ℝ) :
    Spectral.reweight [l0, l1, l2, l3] = Gen.Misc.reweight v0 v1 v2 v3 x y l0 l1 l2 l3 := by
  simp only [Spectral.reweight, List.zipIdx_cons, List.zipIdx_nil, List.map_cons, List.map_nil, Gen.Misc.reweight,
    Gen.Misc.reweight_0, Gen.Misc.reweight_1, Gen.Misc.reweight_2, Gen.Misc.reweight_3]
  push_cast
  norm_num

theorem tet_edges1 : Measures.undirectedEdges (Measures.tetSymKeys [(0, 1, 2, 3)]) = [(0, 1), (1, 2), (0, 2), (0, 3), (1, 3), (2, 3)] := by
  decide

/-- **`TetMesh.avg_edge_length`** on one tetrahedron -/
theorem misc_tetavg (v0 v1 v2 v3 : V3 ℝ) (x y l0 l1 l2 l3 : ℝ) :
    Measures.tetAvgEdgeLength (vtx4 v0 v1 v2 v3) [(0, 1, 2, 3)] = Gen.Misc.tetavg v0 v1 v2 v3 x y l0 l1 l2 l3 := by
  v3_flat [Measures.tetAvgEdgeLength, tet_edges1, List.map_cons, List.map_nil, meanL, List.sum_cons, List.sum_nil,
    List.length_cons, List.length_nil, vtx4_0, vtx4_1, vtx4_2, vtx4_3, Gen.Misc.tetavg]
  ring

/-! ### census: how many data-dependent decisions the tracer recorded (a branch added to the source changes the number) -/
theorem census_HeatKernel_pcCount : Gen.HeatKernel.pcCount = 0 := rfl
theorem census_Misc_pcCount : Gen.Misc.pcCount = 0 := rfl

end LapyVerif.Bridge
