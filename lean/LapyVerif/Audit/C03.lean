import LapyVerif.Props.C03
import LapyVerif.Bridge.C03
import LapyVerif.Bridge.Fem
import LapyVerif.Bridge.SolverGlue
#print axioms LapyVerif.Coo.form_scale
#print axioms LapyVerif.Props.C03.form_shiftMat
#print axioms LapyVerif.Coo.mulVec_cons
#print axioms LapyVerif.Coo.mulVec_scale
#print axioms LapyVerif.Props.C03.mulVec_shiftMat
#print axioms LapyVerif.Coo.mulVec_smul
#print axioms LapyVerif.Coo.form_eq_sum_mulVec
#print axioms LapyVerif.Coo.exists_row_bound
#print axioms LapyVerif.Coo.form_of_rows
#print axioms LapyVerif.Props.C03.shift_pd
#print axioms LapyVerif.Props.C03.shift_unique
#print axioms LapyVerif.Coo.unique_of_pd
#print axioms LapyVerif.Props.C03.factor_zero_of_sum_zero
#print axioms LapyVerif.Props.C03.shift_pairs
#print axioms LapyVerif.Props.C03.shift_pairs_conv
#print axioms LapyVerif.Props.C03.shift_order
#print axioms LapyVerif.Props.C03.shift_back
#print axioms LapyVerif.Props.C03.shift_sorted
#print axioms LapyVerif.Props.C03.gen_eig_nonneg
#print axioms LapyVerif.Props.C03.gen_eig_rayleigh
#print axioms LapyVerif.Props.C03.eig_B_orth
#print axioms LapyVerif.V3.dot_self_nonneg
#print axioms LapyVerif.V3.eq_zero_of_dot_self
#print axioms LapyVerif.V3.dot_zero_left
#print axioms LapyVerif.Props.C03.kernel_const_on_elements
#print axioms LapyVerif.Props.C03.kernel_const_on_components
#print axioms LapyVerif.Coo.energy_zero_of_rows
#print axioms LapyVerif.Props.C03.const_in_kernel
#print axioms LapyVerif.Props.C03.kernel_iff
#print axioms LapyVerif.Props.C03.kernel_const_on_elements_tet
#print axioms LapyVerif.Props.C03.kernel_const_on_components_tet
#print axioms LapyVerif.Props.C03.const_in_kernel_tet
#print axioms LapyVerif.Props.C03.exA_psd
#print axioms LapyVerif.Props.C03.exB_pd
#print axioms LapyVerif.Props.C03.exX_eig
#print axioms LapyVerif.Props.C03.exY_eig
#print axioms LapyVerif.Props.C03.ex_symm
#print axioms LapyVerif.Props.C03.ex_nonDegenTri
#print axioms LapyVerif.Bridge.eigs_sigma_neg
#print axioms LapyVerif.Bridge.eigs_call_shape
#print axioms LapyVerif.Bridge.shiftMat_eq
#print axioms LapyVerif.Bridge.fem_tria_A
#print axioms LapyVerif.Bridge.fem_tria_B
#print axioms LapyVerif.Bridge.fem_tet_A
#print axioms LapyVerif.Bridge.fem_tet_B
#print axioms LapyVerif.Bridge.glue_sigma
#print axioms LapyVerif.Bridge.glue_shifted
#print axioms LapyVerif.Bridge.glue_shifted_keys
#print axioms LapyVerif.Bridge.glue_calls
#print axioms LapyVerif.Bridge.glue_calls_names
#print axioms LapyVerif.Bridge.census_FemTria_pcCount
#print axioms LapyVerif.Bridge.census_FemTriaMass_pcCount
#print axioms LapyVerif.Bridge.census_FemTriaAniso_pcCount
#print axioms LapyVerif.Bridge.census_FemTet_pcCount
#print axioms LapyVerif.Bridge.census_SolverGlue_pcCount
#print axioms LapyVerif.Bridge.eigs_traced_shift
