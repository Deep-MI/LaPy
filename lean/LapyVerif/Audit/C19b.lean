import LapyVerif.Props.C19b
#print axioms LapyVerif.Props.C19.maxL_eq_lmax
#print axioms LapyVerif.Props.C19.minL_eq_lmin
#print axioms LapyVerif.ite_lt_eq_max
#print axioms LapyVerif.foldl_max_spec
#print axioms LapyVerif.Props.C19.meanSel_eq
#print axioms LapyVerif.Props.C19.axisDiff_neg
#print axioms LapyVerif.Props.C19.axisDiff_eq
#print axioms LapyVerif.Props.C19.alignAxis_eq
#print axioms LapyVerif.Props.C19.flow_axis_flip
#print axioms LapyVerif.Props.C19.flow_alignAxis_idem
#print axioms LapyVerif.Props.C19.project100_eq
#print axioms LapyVerif.Props.C19.flow_project_radius
#print axioms LapyVerif.Props.C19.stepMatrix_eq
#print axioms LapyVerif.Props.C19.stepMatrix_eq_solver
#print axioms LapyVerif.Props.C19.flow_step_fixed_model
#print axioms LapyVerif.Props.C19.stepMatrix_form
#print axioms LapyVerif.Props.C19.lumped_form_pos
#print axioms LapyVerif.Props.C19.flow_system_pd
#print axioms LapyVerif.Props.C19.gates_spec
#print axioms LapyVerif.Props.C19.gates_accept_range
#print axioms LapyVerif.Props.C19.stepDiff_nonneg
