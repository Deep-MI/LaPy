import LapyVerif.Model.V3
/- projection lemmas for `V3` (used to turn vector expressions into coordinates before `ring`) -/
namespace LapyVerif.V3
variable {K : Type}

@[simp] theorem sub_x [Sub K] (a b : V3 K) : (a - b).x = a.x - b.x := rfl
@[simp] theorem sub_y [Sub K] (a b : V3 K) : (a - b).y = a.y - b.y := rfl
@[simp] theorem sub_z [Sub K] (a b : V3 K) : (a - b).z = a.z - b.z := rfl
@[simp] theorem add_x [Add K] (a b : V3 K) : (a + b).x = a.x + b.x := rfl
@[simp] theorem add_y [Add K] (a b : V3 K) : (a + b).y = a.y + b.y := rfl
@[simp] theorem add_z [Add K] (a b : V3 K) : (a + b).z = a.z + b.z := rfl
@[simp] theorem neg_x [Neg K] (a : V3 K) : (-a).x = -a.x := rfl
@[simp] theorem neg_y [Neg K] (a : V3 K) : (-a).y = -a.y := rfl
@[simp] theorem neg_z [Neg K] (a : V3 K) : (-a).z = -a.z := rfl
@[simp] theorem smul_x [Mul K] (c : K) (a : V3 K) : (smul c a).x = c * a.x := rfl
@[simp] theorem smul_y [Mul K] (c : K) (a : V3 K) : (smul c a).y = c * a.y := rfl
@[simp] theorem smul_z [Mul K] (c : K) (a : V3 K) : (smul c a).z = c * a.z := rfl
@[simp] theorem cross_x [Sub K] [Mul K] (a b : V3 K) : (cross a b).x = a.y * b.z - a.z * b.y := rfl
@[simp] theorem cross_y [Sub K] [Mul K] (a b : V3 K) : (cross a b).y = a.z * b.x - a.x * b.z := rfl
@[simp] theorem cross_z [Sub K] [Mul K] (a b : V3 K) : (cross a b).z = a.x * b.y - a.y * b.x := rfl
@[simp] theorem mk_x (a b c : K) : (V3.mk a b c).x = a := rfl
@[simp] theorem mk_y (a b c : K) : (V3.mk a b c).y = b := rfl
@[simp] theorem mk_z (a b c : K) : (V3.mk a b c).z = c := rfl

@[ext] theorem ext' {a b : V3 K} (hx : a.x = b.x) (hy : a.y = b.y) (hz : a.z = b.z) : a = b := by
  cases a; cases b; simp_all

end LapyVerif.V3
