import LapyVerif.Model.Geo
import LapyVerif.Lemmas.MinMax
import LapyVerif.Props.C06
import LapyVerif.Props.C03
import LapyVerif.Props.C13
/-
  C08 — the geodesic / rotated right-hand sides handed to the Poisson solver (`Model/Geo.lean`): compatibility,
  post-processing, and exactness on affine data (composition of C06, C01 and the kernel theorems of C03).
  A right-hand side is a `Coo ℝ` with the triplets `((i, 0), value)`: `Coo.mulVec rhs (fun _ => 1) i` is its entry `i`,
  `Coo.total rhs` the sum of its entries, `Coo.form rhs χ (fun _ => 1)` the product `χ · rhs`.
-/
namespace LapyVerif.Props.C08
open V3

/-- **the geodesic right-hand side sums to zero** (it is a divergence; C06 holds for every field) -/
theorem geo_rhs_compatible (vtx : Nat → V3 ℝ) (ts : List Tri) (h : C06.NonDegenLn vtx ts) (f : Nat → ℝ) :
    Coo.total (Geo.geoRhsTri vtx ts f) = 0 :=
  C06.triDiv_sum_zero vtx ts _ h

theorem geo_rhs_compatible_tet (vtx : Nat → V3 ℝ) (ts : List Tet) (h : C06.NonDegenDet vtx ts) (f : Nat → ℝ) :
    Coo.total (Geo.geoRhsTet vtx ts f) = 0 :=
  C06.tetDiv_sum_zero vtx ts _ h

theorem rot_rhs_compatible (vtx : Nat → V3 ℝ) (ts : List Tri) (h : C06.NonDegenLn vtx ts) (f : Nat → ℝ) :
    Coo.total (Geo.rotRhs vtx ts f) = 0 :=
  C06.triDiv_sum_zero vtx ts _ h

/-- **compatibility on every connected component**: `Σ_i χ_i b_i = 0` for every `χ` that is constant on each triangle —
    in particular for the indicator function of an edge-connected component (the right-hand side is orthogonal to the
    whole kernel of the stiffness matrix, `C03.kernel_iff`) -/
theorem geo_rhs_compatible_components (vtx : Nat → V3 ℝ) (ts : List Tri) (h : C06.NonDegenLn vtx ts) (f χ : Nat → ℝ)
    (hχ : ∀ τ ∈ ts, χ τ.1 = χ τ.2.1 ∧ χ τ.2.1 = χ τ.2.2) :
    Coo.form (Geo.geoRhsTri vtx ts f) χ (fun _ => 1) = 0 :=
  C06.triDiv_orth_const vtx ts _ h χ hχ

theorem geo_rhs_compatible_components_tet (vtx : Nat → V3 ℝ) (ts : List Tet) (h : C06.NonDegenDet vtx ts)
    (f χ : Nat → ℝ) (hχ : ∀ τ ∈ ts, χ τ.1 = χ τ.2.1 ∧ χ τ.1 = χ τ.2.2.1 ∧ χ τ.1 = χ τ.2.2.2) :
    Coo.form (Geo.geoRhsTet vtx ts f) χ (fun _ => 1) = 0 :=
  C06.tetDiv_orth_const vtx ts _ h χ hχ

/-- the running minimum that `Geo.shiftMin` folds inline, named so that `shiftMin_eq` can be stated -/
noncomputable def runMin (a : ℝ) (l : List ℝ) : ℝ := l.foldl (fun m y => if y < m then y else m) a

theorem runMin_spec (a : ℝ) (l : List ℝ) :
    runMin a l ≤ a ∧ (∀ y ∈ l, runMin a l ≤ y) ∧ runMin a l ∈ a :: l := by
  rw [runMin, ite_lt_eq_min]; exact foldl_min_spec l a

theorem shiftMin_eq (a : ℝ) (l : List ℝ) : Geo.shiftMin (a :: l) = (a :: l).map (· - runMin a l) := rfl

/-- **`vf -= min(vf)`**: same length, all entries `≥ 0`, the minimum becomes `0`, differences are preserved -/
theorem shiftMin_spec (x : List ℝ) (hne : x ≠ []) :
    (Geo.shiftMin x).length = x.length ∧ (∀ y ∈ Geo.shiftMin x, 0 ≤ y) ∧ (0 : ℝ) ∈ Geo.shiftMin x ∧
    ∀ i j (hi : i < x.length) (hj : j < x.length) (hi' : i < (Geo.shiftMin x).length) (hj' : j < (Geo.shiftMin x).length),
      (Geo.shiftMin x)[i] - (Geo.shiftMin x)[j] = x[i] - x[j] := by
  match x, hne with
  | a :: l, _ =>
    obtain ⟨h1, h2, h3⟩ := runMin_spec a l
    rw [shiftMin_eq]
    refine ⟨by simp, ?_, ?_, ?_⟩
    · intro y hy
      obtain ⟨z, hz, rfl⟩ := List.mem_map.mp hy
      exact sub_nonneg.mpr (List.forall_mem_cons.mpr ⟨h1, h2⟩ z hz)
    · exact List.mem_map.mpr ⟨runMin a l, h3, sub_self _⟩
    · intro i j hi hj hi' hj'
      simp only [List.getElem_map]; ring

theorem shiftMin_nil : Geo.shiftMin ([] : List ℝ) = [] := rfl

theorem normSq_ne_zero_of_ne {a : V3 ℝ} (ha : a ≠ ⟨0, 0, 0⟩) : normSq a ≠ 0 :=
  fun h => ha (V3.eq_zero_of_dot_self a h)

noncomputable def unitVec (a : V3 ℝ) : V3 ℝ := smul (1 / Real.sqrt (normSq a)) a

theorem normalizeRow_eq (g : V3 ℝ) (hg : normSq g ≠ 0) : Geo.normalizeRow g = unitVec g := by
  have hs : Real.sqrt (normSq g) ≠ 0 := (Real.sqrt_pos.mpr ((normSq_nonneg g).lt_of_ne' hg)).ne'
  simp only [Geo.normalizeRow, unitVec, sqrt_real, beq_iff_eq, if_neg hs, mk_div]

theorem normalizeRow_unit (g : V3 ℝ) (hg : normSq g ≠ 0) : normSq (Geo.normalizeRow g) = 1 := by
  rw [normalizeRow_eq g hg]; exact normSq_normalize ((normSq_nonneg g).lt_of_ne' hg)

/-- `‖a/‖a‖‖ = 1` and `a/‖a‖` is a positive multiple of `a`: the function `u = (a/‖a‖)·x` of `geo_affine_tri` has unit slope -/
theorem unitVec_spec (a : V3 ℝ) (ha : a ≠ ⟨0, 0, 0⟩) :
    normSq (unitVec a) = 1 ∧ 0 < dot (unitVec a) a := by
  have hpos : 0 < normSq a := (normSq_nonneg a).lt_of_ne' (normSq_ne_zero_of_ne ha)
  have hs := Real.sqrt_pos.mpr hpos
  refine ⟨normSq_normalize hpos, ?_⟩
  rw [unitVec, dot_smul_left]
  exact mul_pos (one_div_pos.mpr hs) hpos

/-- **a zero row stays zero** (`nan_to_num` of `0/0`) -/
theorem normalizeRow_zero : Geo.normalizeRow (⟨0, 0, 0⟩ : V3 ℝ) = ⟨0, 0, 0⟩ := by
  simp [Geo.normalizeRow, V3.normSq, V3.dot]

theorem rows_zero_of_rhs (A : Coo ℝ) (g u r : Nat → ℝ) (hg : ∀ i, Coo.mulVec A g i = r i)
    (hr : ∀ i, r i = - Coo.mulVec A u i) (i : Nat) : Coo.mulVec A (fun k => g k + u k) i = 0 := by
  rw [Coo.mulVec_add, hg, hr, neg_add_cancel]

/-- if the right-hand side is `−A u`, every solution of `A g = rhs` differs from `−u` by a constant on each connected
    component -/
theorem solution_of_rhs (vtx : Nat → V3 ℝ) (ts : List Tri) (hnd : C06.NonDegenLn vtx ts) (g u r : Nat → ℝ)
    (hg : ∀ i, Coo.mulVec (Fem.stiffTria vtx ts) g i = r i) (hr : ∀ i, r i = - Coo.mulVec (Fem.stiffTria vtx ts) u i) :
    (∀ i, Coo.mulVec (Fem.stiffTria vtx ts) (fun k => g k + u k) i = 0) ∧
    ∀ i j, C03.EdgeConnected ts i j → g i + u i = g j + u j :=
  ⟨rows_zero_of_rhs _ g u r hg hr, C03.kernel_const_on_components vtx ts (C06.nondegenTri_of_ln vtx ts hnd) _
    (Coo.energy_zero_of_rows _ _ (rows_zero_of_rhs _ g u r hg hr))⟩

theorem solution_of_rhs_tet (vtx : Nat → V3 ℝ) (ts : List Tet) (hnd : C06.NonDegenDet vtx ts) (g u r : Nat → ℝ)
    (hg : ∀ i, Coo.mulVec (Fem.stiffTet vtx ts) g i = r i) (hr : ∀ i, r i = - Coo.mulVec (Fem.stiffTet vtx ts) u i) :
    (∀ i, Coo.mulVec (Fem.stiffTet vtx ts) (fun k => g k + u k) i = 0) ∧
    ∀ i j, C03.EdgeConnectedTet ts i j → g i + u i = g j + u j :=
  ⟨rows_zero_of_rhs _ g u r hg hr, C03.kernel_const_on_components_tet vtx ts (C06.nondegenTet_of_det vtx ts hnd) _
    (Coo.energy_zero_of_rows _ _ (rows_zero_of_rhs _ g u r hg hr))⟩

theorem triGrad_affine_flat (v0 v1 v2 a : V3 ℝ) (b : ℝ) (h0 : v0.z = 0) (h1 : v1.z = 0) (h2 : v2.z = 0) (ha : a.z = 0)
    (h : ¬ (Real.sqrt (normSq (Spec.triN v0 v1 v2)) < epsK)) :
    DiffGeo.triGrad1 v0 v1 v2 (dot a v0 + b) (dot a v1 + b) (dot a v2 + b) = a := by
  have : dot a (Spec.triN v0 v1 v2) = 0 := by
    rw [Spec.triN_flat v0 v1 v2 h0 h1 h2, dot_smul_right]; simp only [V3.dot, ha, mul_zero, zero_mul, add_zero]
  rw [C06.triGrad_affine _ _ _ _ _ h, this, zero_div]
  apply V3.ext' <;> simp

theorem triGrad_affine_field (vtx : Nat → V3 ℝ) (ts : List Tri) (hflat : ∀ i, (vtx i).z = 0)
    (hnd : C06.NonDegenLn vtx ts) (a : V3 ℝ) (b : ℝ) (haz : a.z = 0) (f : Nat → ℝ) (hf : ∀ i, f i = dot a (vtx i) + b) :
    DiffGeo.triGrad vtx ts f = ts.map fun _ => a :=
  List.map_congr_left fun τ hτ => by
    rw [hf, hf, hf, triGrad_affine_flat _ _ _ a b (hflat _) (hflat _) (hflat _) haz (hnd τ hτ)]

theorem tetGrad_affine_field (vtx : Nat → V3 ℝ) (ts : List Tet) (hnd : C06.NonDegenDet vtx ts) (a : V3 ℝ) (b : ℝ)
    (f : Nat → ℝ) (hf : ∀ i, f i = dot a (vtx i) + b) :
    DiffGeo.tetGrad vtx ts f = ts.map fun _ => a :=
  List.map_congr_left fun τ hτ => by rw [hf, hf, hf, hf, C06.tetGrad_affine _ _ _ _ a b (hnd τ hτ)]

theorem geo_field_affine_tri (vtx : Nat → V3 ℝ) (ts : List Tri) (hflat : ∀ i, (vtx i).z = 0)
    (hnd : C06.NonDegenLn vtx ts) (a : V3 ℝ) (b : ℝ) (haz : a.z = 0) (ha : a ≠ ⟨0, 0, 0⟩)
    (f : Nat → ℝ) (hf : ∀ i, f i = dot a (vtx i) + b) :
    (DiffGeo.triGrad vtx ts f).map Geo.normalizeRow = DiffGeo.triGrad vtx ts (fun i => dot (unitVec a) (vtx i)) := by
  rw [triGrad_affine_field vtx ts hflat hnd a b haz f hf,
    triGrad_affine_field vtx ts hflat hnd (unitVec a) 0 (by simp [unitVec, haz]) _ fun _ => (add_zero _).symm,
    List.map_map]
  exact List.map_congr_left fun _ _ => normalizeRow_eq a (normSq_ne_zero_of_ne ha)

/-- **geodesic right-hand side on affine data (flat triangle mesh): `rhs = −A u`**, `u` the unit-slope affine function
    increasing along `a` -/
theorem geo_affine_tri (vtx : Nat → V3 ℝ) (ts : List Tri) (hflat : ∀ i, (vtx i).z = 0)
    (hnd : C06.NonDegenLn vtx ts) (a : V3 ℝ) (b : ℝ) (haz : a.z = 0) (ha : a ≠ ⟨0, 0, 0⟩)
    (f : Nat → ℝ) (hf : ∀ i, f i = dot a (vtx i) + b) (i : Nat) :
    Coo.mulVec (Geo.geoRhsTri vtx ts f) (fun _ => 1) i
      = - Coo.mulVec (Fem.stiffTria vtx ts) (fun i => dot (unitVec a) (vtx i)) i := by
  unfold Geo.geoRhsTri
  rw [geo_field_affine_tri vtx ts hflat hnd a b haz ha f hf, C06.triDiv_grad vtx ts hnd]

/-- **every solution of the (singular) geodesic system is `−u + const` on each connected component**: the unit-slope
    affine function decreasing along `grad f` -/
theorem geo_solution_affine (vtx : Nat → V3 ℝ) (ts : List Tri) (hflat : ∀ i, (vtx i).z = 0)
    (hnd : C06.NonDegenLn vtx ts) (a : V3 ℝ) (b : ℝ) (haz : a.z = 0) (ha : a ≠ ⟨0, 0, 0⟩)
    (f : Nat → ℝ) (hf : ∀ i, f i = dot a (vtx i) + b) (g : Nat → ℝ)
    (hg : ∀ i, Coo.mulVec (Fem.stiffTria vtx ts) g i = Coo.mulVec (Geo.geoRhsTri vtx ts f) (fun _ => 1) i) :
    (∀ i, Coo.mulVec (Fem.stiffTria vtx ts) (fun k => g k + dot (unitVec a) (vtx k)) i = 0) ∧
    ∀ i j, C03.EdgeConnected ts i j →
      g i + dot (unitVec a) (vtx i) = g j + dot (unitVec a) (vtx j) :=
  solution_of_rhs vtx ts hnd g _ _ hg (geo_affine_tri vtx ts hflat hnd a b haz ha f hf)

/-! ### tetrahedra (any, mixed, element orientation; no flatness) -/

theorem geo_field_affine_tet (vtx : Nat → V3 ℝ) (ts : List Tet) (hnd : C06.NonDegenDet vtx ts) (a : V3 ℝ) (b : ℝ)
    (ha : a ≠ ⟨0, 0, 0⟩) (f : Nat → ℝ) (hf : ∀ i, f i = dot a (vtx i) + b) :
    (DiffGeo.tetGrad vtx ts f).map Geo.normalizeRow = DiffGeo.tetGrad vtx ts (fun i => dot (unitVec a) (vtx i)) := by
  rw [tetGrad_affine_field vtx ts hnd a b f hf,
    tetGrad_affine_field vtx ts hnd (unitVec a) 0 _ fun _ => (add_zero _).symm, List.map_map]
  exact List.map_congr_left fun _ _ => normalizeRow_eq a (normSq_ne_zero_of_ne ha)

theorem geo_affine_tet (vtx : Nat → V3 ℝ) (ts : List Tet) (hnd : C06.NonDegenDet vtx ts) (a : V3 ℝ) (b : ℝ)
    (ha : a ≠ ⟨0, 0, 0⟩) (f : Nat → ℝ) (hf : ∀ i, f i = dot a (vtx i) + b) (i : Nat) :
    Coo.mulVec (Geo.geoRhsTet vtx ts f) (fun _ => 1) i
      = - Coo.mulVec (Fem.stiffTet vtx ts) (fun i => dot (unitVec a) (vtx i)) i := by
  unfold Geo.geoRhsTet
  rw [geo_field_affine_tet vtx ts hnd a b ha f hf, C06.tetDiv_grad vtx ts hnd]

theorem geo_solution_affine_tet (vtx : Nat → V3 ℝ) (ts : List Tet) (hnd : C06.NonDegenDet vtx ts) (a : V3 ℝ) (b : ℝ)
    (ha : a ≠ ⟨0, 0, 0⟩) (f : Nat → ℝ) (hf : ∀ i, f i = dot a (vtx i) + b) (g : Nat → ℝ)
    (hg : ∀ i, Coo.mulVec (Fem.stiffTet vtx ts) g i = Coo.mulVec (Geo.geoRhsTet vtx ts f) (fun _ => 1) i) :
    (∀ i, Coo.mulVec (Fem.stiffTet vtx ts) (fun k => g k + dot (unitVec a) (vtx k)) i = 0) ∧
    ∀ i j, C03.EdgeConnectedTet ts i j →
      g i + dot (unitVec a) (vtx i) = g j + dot (unitVec a) (vtx j) :=
  solution_of_rhs_tet vtx ts hnd g _ _ hg (geo_affine_tet vtx ts hnd a b ha f hf)

/-- the quarter turn of an in-plane vector about the `z` axis -/
def rotZ (a : V3 ℝ) : V3 ℝ := cross ⟨0, 0, 1⟩ a

theorem rotZ_spec (a : V3 ℝ) (haz : a.z = 0) :
    normSq (rotZ a) = normSq a ∧ dot (rotZ a) a = 0 ∧ (rotZ a).z = 0 := by
  simp only [rotZ]
  refine ⟨?_, ?_, ?_⟩
  · v3_flat; rw [haz]; ring
  · v3_flat; ring
  · v3_flat; ring

theorem triNormal_flat (v0 v1 v2 : V3 ℝ) (h0 : v0.z = 0) (h1 : v1.z = 0) (h2 : v2.z = 0)
    (hpos : 0 < (Spec.triN v0 v1 v2).z) (h : ¬ (Real.sqrt (normSq (Spec.triN v0 v1 v2)) < epsK)) :
    Measures.triNormal v0 v1 v2 = ⟨0, 0, 1⟩ := by
  rw [C13.triNormal_eq v0 v1 v2 h]
  show smul (1 / Real.sqrt (normSq (Spec.triN v0 v1 v2))) (Spec.triN v0 v1 v2) = _
  rw [Spec.triN_flat v0 v1 v2 h0 h1 h2, normSq_smul, normSq_ez, mul_one, Real.sqrt_mul_self hpos.le,
    V3.smul_smul, one_div_mul_cancel hpos.ne', V3.one_smul]

theorem rot_field_affine (vtx : Nat → V3 ℝ) (ts : List Tri) (hflat : ∀ i, (vtx i).z = 0)
    (hnd : C06.NonDegenLn vtx ts) (hor : ∀ τ ∈ ts, 0 < (Spec.triN (vtx τ.1) (vtx τ.2.1) (vtx τ.2.2)).z)
    (a : V3 ℝ) (b : ℝ) (haz : a.z = 0) (f : Nat → ℝ) (hf : ∀ i, f i = dot a (vtx i) + b) :
    ((ts.zip (DiffGeo.triGrad vtx ts f)).map fun (τ, g) =>
        cross (Measures.triNormal (vtx τ.1) (vtx τ.2.1) (vtx τ.2.2)) g)
      = DiffGeo.triGrad vtx ts (fun i => dot (rotZ a) (vtx i)) := by
  rw [triGrad_affine_field vtx ts hflat hnd a b haz f hf,
    triGrad_affine_field vtx ts hflat hnd (rotZ a) 0 (rotZ_spec a haz).2.2 _ fun _ => (add_zero _).symm, zip_map_self_map]
  exact List.map_congr_left fun τ hτ =>
    congrArg (cross · a) (triNormal_flat _ _ _ (hflat _) (hflat _) (hflat _) (hor τ hτ) (hnd τ hτ))

/-- **rotated right-hand side on affine data: `rotRhs = −A r`** with `r = (e_z × a)·x`, whose level sets are the
    gradient lines of `f` -/
theorem rot_rhs_affine (vtx : Nat → V3 ℝ) (ts : List Tri) (hflat : ∀ i, (vtx i).z = 0)
    (hnd : C06.NonDegenLn vtx ts) (hor : ∀ τ ∈ ts, 0 < (Spec.triN (vtx τ.1) (vtx τ.2.1) (vtx τ.2.2)).z)
    (a : V3 ℝ) (b : ℝ) (haz : a.z = 0) (f : Nat → ℝ) (hf : ∀ i, f i = dot a (vtx i) + b) (i : Nat) :
    Coo.mulVec (Geo.rotRhs vtx ts f) (fun _ => 1) i
      = - Coo.mulVec (Fem.stiffTria vtx ts) (fun i => dot (rotZ a) (vtx i)) i := by
  unfold Geo.rotRhs
  rw [rot_field_affine vtx ts hflat hnd hor a b haz f hf, C06.triDiv_grad vtx ts hnd]

/-- every solution of the rotated system is `−r + const` on each connected component.  The system is assumed on every
    row, as in `geo_solution_affine`.  `tria_compute_rotated_f` however fixes `g 0 = 0` and C05 gives the equation at the
    free rows only; that row `0` holds as well (the right-hand side is compatible, `rot_rhs_compatible`) is not proved. -/
theorem rot_solution_affine (vtx : Nat → V3 ℝ) (ts : List Tri) (hflat : ∀ i, (vtx i).z = 0)
    (hnd : C06.NonDegenLn vtx ts) (hor : ∀ τ ∈ ts, 0 < (Spec.triN (vtx τ.1) (vtx τ.2.1) (vtx τ.2.2)).z)
    (a : V3 ℝ) (b : ℝ) (haz : a.z = 0) (f : Nat → ℝ) (hf : ∀ i, f i = dot a (vtx i) + b) (g : Nat → ℝ)
    (hg : ∀ i, Coo.mulVec (Fem.stiffTria vtx ts) g i = Coo.mulVec (Geo.rotRhs vtx ts f) (fun _ => 1) i) :
    ∀ i j, C03.EdgeConnected ts i j → g i + dot (rotZ a) (vtx i) = g j + dot (rotZ a) (vtx j) :=
  (solution_of_rhs vtx ts hnd g _ _ hg (rot_rhs_affine vtx ts hflat hnd hor a b haz f hf)).2

section Examples

/-- the unit square split into two positively oriented triangles, in the plane `z = 0` -/
noncomputable def vtxSq : Nat → V3 ℝ := vtx4 ⟨0, 0, 0⟩ ⟨1, 0, 0⟩ ⟨1, 1, 0⟩ ⟨0, 1, 0⟩
def tsSq : List Tri := [(0, 1, 2), (0, 2, 3)]

theorem vtxSq_flat : ∀ i, (vtxSq i).z = 0 := by
  intro i
  match i with
  | 0 => rfl
  | 1 => rfl
  | 2 => rfl
  | _ + 3 => rfl

theorem tsSq_triN : ∀ τ ∈ tsSq, Spec.triN (vtxSq τ.1) (vtxSq τ.2.1) (vtxSq τ.2.2) = ⟨0, 0, 1⟩ := by
  intro τ hτ
  rw [Spec.triN_flat _ _ _ (vtxSq_flat _) (vtxSq_flat _) (vtxSq_flat _)]
  simp only [tsSq, List.mem_cons, List.not_mem_nil, or_false] at hτ
  refine Eq.trans (congrArg (smul · _) ?_) (V3.one_smul _)
  rcases hτ with rfl | rfl <;> (simp only [Spec.triN, vtxSq, vtx4]; v3_flat; norm_num)

theorem tsSq_nonDegen : C06.NonDegenLn vtxSq tsSq := by
  intro τ hτ
  rw [tsSq_triN τ hτ]
  rw [normSq_ez, Real.sqrt_one, epsK_real]; norm_num

theorem tsSq_oriented : ∀ τ ∈ tsSq, 0 < (Spec.triN (vtxSq τ.1) (vtxSq τ.2.1) (vtxSq τ.2.2)).z := by
  intro τ hτ; rw [tsSq_triN τ hτ]; norm_num

example (i : Nat) :
    Coo.mulVec (Geo.geoRhsTri vtxSq tsSq (fun i => dot ⟨3, 4, 0⟩ (vtxSq i) + 7)) (fun _ => 1) i
      = - Coo.mulVec (Fem.stiffTria vtxSq tsSq) (fun i => dot (unitVec ⟨3, 4, 0⟩) (vtxSq i)) i :=
  geo_affine_tri vtxSq tsSq vtxSq_flat tsSq_nonDegen ⟨3, 4, 0⟩ 7 rfl (by intro h; simpa using congrArg V3.x h)
    _ (fun _ => rfl) i

example (i : Nat) :
    Coo.mulVec (Geo.rotRhs vtxSq tsSq (fun i => dot ⟨3, 4, 0⟩ (vtxSq i) + 7)) (fun _ => 1) i
      = - Coo.mulVec (Fem.stiffTria vtxSq tsSq) (fun i => dot (rotZ ⟨3, 4, 0⟩) (vtxSq i)) i :=
  rot_rhs_affine vtxSq tsSq vtxSq_flat tsSq_nonDegen tsSq_oriented ⟨3, 4, 0⟩ 7 rfl _ (fun _ => rfl) i

example : C03.EdgeConnected tsSq 1 3 :=
  .step (0, 2, 3) (by simp [tsSq]) (j := 2) (by simp) (by simp)
    (.step (0, 1, 2) (by simp [tsSq]) (j := 1) (by simp) (by simp) (.refl 1))

example : Geo.shiftMin ([3, 1, 2] : List ℝ) = [2, 0, 1] := by
  have : runMin 3 [1, 2] = 1 := by simp [runMin]
  rw [shiftMin_eq, this]; norm_num

example : normSq (Geo.normalizeRow (⟨3, 4, 0⟩ : V3 ℝ)) = 1 :=
  normalizeRow_unit _ (by v3_flat; norm_num)

end Examples

end LapyVerif.Props.C08
