import LapyVerif.Lemmas.BridgeTac
import LapyVerif.Model.Geo
import LapyVerif.Generated.GeoGlue
/-
  Bridge: `compute_geodesic_f`, `tria_compute_geodesic_f`, `tria_compute_rotated_f` (lapy/diffgeo.py) traced as protocols (gradient,
  divergence and Solver replaced by recorders on symbols):
  * the field handed to the divergence is the row-normalised gradient (`Geo.normalizeRow`, non-zero gradients) resp. `tn × grad f`;
  * the Solver is built on the geometry (`lump=True` for the generic entry point), its mass matrix is replaced by the identity, `poisson`
    receives the divergence output itself, no boundary data for the geodesic functions and `u(vertex 0) = 0` for the rotated one;
  * the geodesic result is shifted by its minimum (`Geo.shiftMin`), the rotated result is the solver output.
-/
namespace LapyVerif.Bridge

theorem geo_field (g0 g1 n0 n1 : V3 ℝ) (x0 x1 x2 : ℝ) (h0 : Real.sqrt (V3.normSq g0) ≠ 0) (h1 : Real.sqrt (V3.normSq g1) ≠ 0) :
    ([g0, g1].map Geo.normalizeRow).flatMap (fun p => [p.x, p.y, p.z]) = Gen.GeoGlue.geoField g0 g1 n0 n1 x0 x1 x2 ∧
    Gen.GeoGlue.tgeoField g0 g1 n0 n1 x0 x1 x2 = Gen.GeoGlue.geoField g0 g1 n0 n1 x0 x1 x2 := by
  constructor
  · simp only [List.map_cons, List.map_nil, List.flatMap_cons, List.flatMap_nil, List.cons_append, List.nil_append, List.append_nil,
      Geo.normalizeRow, sqrt_real, beq_iff_eq, h0, h1, if_false, Gen.GeoGlue.geoField, Gen.GeoGlue.geoField_0, Gen.GeoGlue.geoField_1,
      Gen.GeoGlue.geoField_2, Gen.GeoGlue.geoField_3, Gen.GeoGlue.geoField_4, Gen.GeoGlue.geoField_5]
    v3_flat []
  · rfl

theorem rot_field (g0 g1 n0 n1 : V3 ℝ) (x0 x1 x2 : ℝ) :
    [V3.cross n0 g0, V3.cross n1 g1].flatMap (fun p => [p.x, p.y, p.z]) = Gen.GeoGlue.rotField g0 g1 n0 n1 x0 x1 x2 := by
  v3_flat [List.flatMap_cons, List.flatMap_nil, List.cons_append, List.nil_append, List.append_nil, Gen.GeoGlue.rotField,
    Gen.GeoGlue.rotField_0, Gen.GeoGlue.rotField_1, Gen.GeoGlue.rotField_2, Gen.GeoGlue.rotField_3, Gen.GeoGlue.rotField_4,
    Gen.GeoGlue.rotField_5]

/-- **`vf -= min(vf)`** on the recorded branch (the comparisons `min` asked for are the path condition) -/
theorem geo_result (g0 g1 n0 n1 : V3 ℝ) (x0 x1 x2 : ℝ) (h : Gen.GeoGlue.pc g0 g1 n0 n1 x0 x1 x2) :
    Geo.shiftMin [x0, x1, x2] = Gen.GeoGlue.geoResult g0 g1 n0 n1 x0 x1 x2 ∧
    Gen.GeoGlue.tgeoResult g0 g1 n0 n1 x0 x1 x2 = Gen.GeoGlue.geoResult g0 g1 n0 n1 x0 x1 x2 ∧
    Gen.GeoGlue.rotResult g0 g1 n0 n1 x0 x1 x2 = [x0, x1, x2] := by
  obtain ⟨h1, h2⟩ := h
  refine ⟨?_, ?_, ?_⟩
  · simp only [Geo.shiftMin, List.foldl, h1, if_true, h2, if_false, List.map_cons, List.map_nil, Gen.GeoGlue.geoResult,
      Gen.GeoGlue.geoResult_0, Gen.GeoGlue.geoResult_1, Gen.GeoGlue.geoResult_2]
  · rfl
  · rfl

/-- **what the recorders saw** -/
theorem geo_facts : Gen.GeoGlue.facts =
    [("geo: events", "gradient(geom, vfunc) > divergence(geom, field) > Solver(geom, lump=True) > poisson"),
     ("geo: poisson h is the divergence output", "True"), ("geo: poisson mass", "identity(3)"),
     ("geo: Dirichlet data", "none"), ("geo: Neumann data", "none"),
     ("tgeo: events", "gradient(geom, vfunc) > divergence(geom, field) > Solver(geom, lump=False) > poisson"),
     ("tgeo: poisson h is the divergence output", "True"), ("tgeo: poisson mass", "identity(3)"),
     ("tgeo: Dirichlet data", "none"), ("tgeo: Neumann data", "none"),
     ("rot: events", "gradient(geom, vfunc) > divergence(geom, field) > Solver(geom, lump=False) > poisson"),
     ("rot: poisson h is the divergence output", "True"), ("rot: poisson mass", "identity(3)"),
     ("rot: Dirichlet data", "idx=[0] val=[0.0]"), ("rot: Neumann data", "none")] :=
  rfl

/-! ### census: how many data-dependent decisions the tracer recorded (a branch added to the source changes the number) -/
theorem census_GeoGlue_pcCount : Gen.GeoGlue.pcCount = 2 := rfl

end LapyVerif.Bridge
