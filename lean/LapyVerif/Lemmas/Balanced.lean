import Mathlib.Data.List.Count
import Mathlib.Algebra.BigOperators.Group.List.Basic
import Mathlib.Tactic.Linarith
import LapyVerif.Lemmas.V3Alg
import LapyVerif.Lemmas.ListSum
/-
  Balanced half-edge lemmas (discrete Stokes): sums over a list of directed arcs that vanish because every arc is
  matched by its reverse or every vertex is entered as often as left.  Nothing here mentions triangles.
-/
namespace LapyVerif
namespace Lemmas

/-- every arc occurs as often as its reverse -/
def ArcBalanced (H : List (Nat × Nat)) : Prop := ∀ a b, H.count (a, b) = H.count (b, a)

/-- every vertex starts as many arcs as it ends (in-degree = out-degree) -/
def DegBalanced (H : List (Nat × Nat)) : Prop := ∀ p, (H.map (·.1)).count p = (H.map (·.2)).count p

theorem ArcBalanced.swap_perm {H : List (Nat × Nat)} (hb : ArcBalanced H) : (H.map Prod.swap).Perm H := by
  rw [List.perm_iff_count]
  rintro ⟨a, b⟩
  have := List.count_map_of_injective H Prod.swap Prod.swap_injective (b, a)
  simp only [Prod.swap_prod_mk] at this
  rw [this]
  exact (hb a b).symm

theorem degBalanced_iff_perm (H : List (Nat × Nat)) : DegBalanced H ↔ (H.map (·.1)).Perm (H.map (·.2)) :=
  List.perm_iff_count.symm

theorem ArcBalanced.degBalanced {H : List (Nat × Nat)} (hb : ArcBalanced H) : DegBalanced H := by
  rw [degBalanced_iff_perm]
  have h := hb.swap_perm.map (·.1)
  rw [List.map_map] at h
  exact h.symm

/-- **balanced half-edge lemma**: an antisymmetric quantity summed over an arc-balanced list is zero -/
theorem balanced_sum_zero (H : List (Nat × Nat)) (hb : ArcBalanced H) (F : Nat → Nat → ℝ)
    (hF : ∀ a b, F a b = - F b a) : (H.map fun h => F h.1 h.2).sum = 0 := by
  have h1 : ((H.map Prod.swap).map fun h => F h.1 h.2).sum = (H.map fun h => F h.1 h.2).sum :=
    (hb.swap_perm.map _).sum_eq
  have h2 : ((H.map Prod.swap).map fun h => F h.1 h.2) = (H.map fun h => F h.1 h.2).map fun x => -x := by
    rw [List.map_map, List.map_map]
    apply List.map_congr_left
    rintro ⟨a, b⟩ _
    simp only [Function.comp_apply, Prod.swap_prod_mk]
    exact hF b a
  rw [h2, ← List.sum_neg] at h1
  linarith

/-- **telescoping lemma**: the sum over the arcs `(p,q)` of `g q − g p` vanishes on a degree-balanced list -/
theorem telescope_sum_zero (H : List (Nat × Nat)) (hb : DegBalanced H) (g : Nat → ℝ) :
    (H.map fun h => g h.2 - g h.1).sum = 0 := by
  have h1 := (((degBalanced_iff_perm H).1 hb).map g).sum_eq
  rw [List.map_map, List.map_map] at h1
  rw [List.sum_map_sub H (fun h => g h.2) (fun h => g h.1)]
  exact sub_eq_zero.mpr h1.symm

/-! ### `V3 ℝ`-valued sums, component by component in every direction (`V3.eq_zero_of_forall_dot`) -/

open V3

theorem balanced_sum_zero_v3 (H : List (Nat × Nat)) (hb : ArcBalanced H) (F : Nat → Nat → V3 ℝ)
    (hF : ∀ a b, F a b = - F b a) : (H.map fun h => F h.1 h.2).sum = (0 : V3 ℝ) :=
  eq_zero_of_forall_dot fun c => by
    rw [dot_sum]
    exact balanced_sum_zero H hb (fun a b => dot c (F a b)) fun a b => by rw [hF a b, dot_neg_right]

theorem telescope_sum_zero_v3 (H : List (Nat × Nat)) (hb : DegBalanced H) (g : Nat → V3 ℝ) :
    (H.map fun h => g h.2 - g h.1).sum = (0 : V3 ℝ) :=
  eq_zero_of_forall_dot fun c => by
    simp only [dot_sum, dot_sub_right]
    exact telescope_sum_zero H hb fun j => dot c (g j)

end Lemmas
end LapyVerif
