import LapyVerif.Lemmas.Loops
import LapyVerif.Lemmas.Count
import LapyVerif.Lemmas.TriEdges
/-
  C09 — connectivity queries of `TriaMesh` (`is_closed`, `is_manifold`, `is_oriented`, `euler`, `has_free_vertices`,
  `vertex_degrees`, `boundary_loops`, `edges`) say what their names say.

  All theorems are about the executable model `Model/Topo.lean` (which is tied to `/repo` elsewhere) for EVERY
  triangle list — no bound on the number of triangles.  The only mesh hypothesis is `Distinct ts` (every triangle has
  three different vertex indices); it is necessary: for `ts = [(0,0,1)]` the key `(0,0)` is stored in `adj_sym`
  and `(0,1)` is stored with value 2 although only one triangle contains the edge `{0,1}`.
  The property is `isClosed_iff`, `isManifold_iff`, `isOriented_iff`, `euler_spec`, `hasFree_iff`, `vertexDegrees_spec`,
  `loops_errors`, `loops_spec`, `boundaryLoops_spec`, `edges_error`, `edges_spec`.
-/
namespace LapyVerif.Props.C09

def Distinct (ts : List Tri) : Prop := ∀ τ ∈ ts, τ.1 ≠ τ.2.1 ∧ τ.2.1 ≠ τ.2.2 ∧ τ.2.2 ≠ τ.1

instance (ts : List Tri) : Decidable (Distinct ts) := by unfold Distinct; infer_instance

def isVert (τ : Tri) (v : Nat) : Bool := v == τ.1 || v == τ.2.1 || v == τ.2.2

/-- `{a,b}` is an (undirected) edge of `τ`: both are vertices of `τ` and `a ≠ b` -/
def hasEdge (τ : Tri) (a b : Nat) : Bool := isVert τ a && isVert τ b && a != b

/-- `a→b` is one of the three directed half-edges `t0→t1`, `t1→t2`, `t2→t0` of `τ` -/
def hasHalfEdge (τ : Tri) (a b : Nat) : Bool :=
  (a == τ.1 && b == τ.2.1) || (a == τ.2.1 && b == τ.2.2) || (a == τ.2.2 && b == τ.1)

/-- number of triangles that contain the undirected edge `{a,b}` -/
def edgeCount (ts : List Tri) (a b : Nat) : Nat := (ts.filter fun τ => hasEdge τ a b).length

/-- number of triangles that contain the directed half-edge `a→b` -/
def halfEdgeCount (ts : List Tri) (a b : Nat) : Nat := (ts.filter fun τ => hasHalfEdge τ a b).length

def triVerts (τ : Tri) : List Nat := [τ.1, τ.2.1, τ.2.2]

/-- all vertex slots of the triangle array (`t.reshape(-1)`) -/
def allVerts (ts : List Tri) : List Nat := ts.flatMap triVerts

/-- the distinct undirected edges, each once as `(a,b)` with `a < b` (see `mem_undirEdges`, `nodup_undirEdges`) -/
def undirEdges (ts : List Tri) : List (Nat × Nat) :=
  ((ts.flatMap triSymKeys).eraseDups).filter fun k => decide (k.1 < k.2)

def numEdges (ts : List Tri) : Nat := (undirEdges ts).length

/-- the distinct neighbours of vertex `j` (see `mem_neighbours`, `nodup_neighbours`) -/
def neighbours (ts : List Tri) (j : Nat) : List Nat :=
  ((allVerts ts).filter fun i => decide (0 < edgeCount ts i j)).eraseDups

def InRange (nv : Nat) (ts : List Tri) : Prop := ∀ τ ∈ ts, τ.1 < nv ∧ τ.2.1 < nv ∧ τ.2.2 < nv

instance (nv : Nat) (ts : List Tri) : Decidable (InRange nv ts) := by unfold InRange; infer_instance

/-- boundary of a tetrahedron: closed, manifold, oriented -/
def tetra : List Tri := [(0, 1, 2), (0, 3, 1), (0, 2, 3), (1, 3, 2)]
/-- two triangles sharing the edge `{1,2}`, consistently oriented: open, manifold, oriented -/
def strip : List Tri := [(0, 1, 2), (1, 3, 2)]
/-- the same strip with the second triangle flipped: open, manifold, not oriented -/
def stripFlipped : List Tri := [(0, 1, 2), (1, 2, 3)]
/-- three triangles around one edge `{0,1}`: not manifold -/
def fan3 : List Tri := [(0, 1, 2), (0, 1, 3), (0, 1, 4)]

theorem distinct_tetra : Distinct tetra := by decide
theorem distinct_strip : Distinct strip := by decide
theorem isClosed_tetra : Topo.isClosed tetra = true := by decide
theorem isManifold_tetra : Topo.isManifold tetra = true := by decide
theorem isOriented_tetra : Topo.isOriented tetra = true := by decide
theorem isManifold_strip : Topo.isManifold strip = true := by decide
theorem isOriented_strip : Topo.isOriented strip = true := by decide
theorem isManifold_fan3 : Topo.isManifold fan3 = false := by decide
theorem isOriented_stripFlipped : Topo.isOriented stripFlipped = false := by decide

open OrientLemmas OrientMesh in
theorem hasHalfEdge_iff (τ : Tri) (a b : Nat) : hasHalfEdge τ a b = true ↔ (a, b) ∈ dirEdges τ := by
  simp only [hasHalfEdge, dirEdges, Bool.or_eq_true, Bool.and_eq_true, beq_iff_eq, List.mem_cons, Prod.mk.injEq,
    List.not_mem_nil, or_false, or_assoc]

open OrientLemmas OrientMesh in
theorem hasEdge_iff (τ : Tri) (a b : Nat) (h : OrientMesh.TriDistinct τ) :
    hasEdge τ a b = true ↔ (a, b) ∈ dirEdges τ ∨ (b, a) ∈ dirEdges τ := by
  have hv : ∀ v, isVert τ v = true ↔ v ∈ tverts τ := fun v => by simp [isVert, tverts, or_assoc]
  rw [TriDistinct.dirEdge_or_iff h, hasEdge, Bool.and_eq_true, Bool.and_eq_true, hv, hv, bne_iff_ne, and_comm]

theorem hasEdge_eq_or (τ : Tri) (a b : Nat) (h : OrientMesh.TriDistinct τ) :
    hasEdge τ a b = (hasHalfEdge τ a b || hasHalfEdge τ b a) ∧
    ¬ (hasHalfEdge τ a b = true ∧ hasHalfEdge τ b a = true) := by
  constructor
  · rw [Bool.eq_iff_iff, Bool.or_eq_true, hasEdge_iff τ a b h, hasHalfEdge_iff, hasHalfEdge_iff]
  · rw [hasHalfEdge_iff, hasHalfEdge_iff]
    exact fun hh => OrientMesh.TriDistinct.swap_not_mem h hh.1 hh.2

theorem count_dirEdges (τ : Tri) (a b : Nat) (h : OrientMesh.TriDistinct τ) :
    (OrientLemmas.dirEdges τ).count (a, b) = if hasHalfEdge τ a b then 1 else 0 := by
  rw [(OrientMesh.TriDistinct.dirEdges_nodup h).count]
  exact if_congr (hasHalfEdge_iff τ a b).symm rfl rfl

theorem Distinct.tail {τ : Tri} {ts : List Tri} (h : Distinct (τ :: ts)) : Distinct ts :=
  fun σ hσ => h σ (List.mem_cons_of_mem _ hσ)

/-- stored directed value = number of triangles containing the half-edge -/
theorem count_dirKeys (ts : List Tri) (hd : Distinct ts) (a b : Nat) :
    (Topo.dirKeys ts).count (a, b) = halfEdgeCount ts a b := by
  rw [halfEdgeCount, ← List.countP_eq_length_filter]
  exact List.count_flatMap_eq_countP ts _ _ _ fun τ hτ => count_dirEdges τ a b (hd τ hτ)

/-- stored symmetric value = number of triangles containing the edge (also for `a = b`: both are 0) -/
theorem count_symKeys (ts : List Tri) (hd : Distinct ts) (a b : Nat) :
    (Topo.symKeys ts).count (a, b) = edgeCount ts a b := by
  rw [edgeCount, ← List.countP_eq_length_filter]
  exact List.count_flatMap_eq_countP ts _ _ _ fun τ hτ => (Topo.count_triSymKeys (hd τ hτ) a b).trans
    (if_congr ((hasEdge_iff τ a b (hd τ hτ)).trans (OrientMesh.TriDistinct.dirEdge_or_iff (hd τ hτ))).symm rfl rfl)

/-- every triangle containing `{a,b}` contains exactly one of `a→b`, `b→a` -/
theorem edgeCount_eq_add (ts : List Tri) (hd : Distinct ts) (a b : Nat) :
    edgeCount ts a b = halfEdgeCount ts a b + halfEdgeCount ts b a := by
  rw [← count_symKeys ts hd, ← count_dirKeys ts hd, ← count_dirKeys ts hd, Topo.count_symKeys_eq_add]

theorem edgeCount_comm (ts : List Tri) (a b : Nat) : edgeCount ts a b = edgeCount ts b a := by
  unfold edgeCount
  congr 1
  apply List.filter_congr
  intro τ _
  show (isVert τ a && isVert τ b && a != b) = (isVert τ b && isVert τ a && b != a)
  rw [Bool.and_comm (isVert τ a) (isVert τ b), bne_comm]

theorem edgeCount_self (ts : List Tri) (a : Nat) : edgeCount ts a a = 0 := by
  simp [edgeCount, hasEdge]

theorem edgeCount_pos_iff (ts : List Tri) (a b : Nat) :
    0 < edgeCount ts a b ↔ ∃ τ ∈ ts, hasEdge τ a b = true := by
  simp only [edgeCount, List.length_pos_iff_exists_mem, List.mem_filter]

/-! ## 1. entries of the adjacency matrices -/

/-- `adj_sym[a,b]` is the number of occurrences of the key, and for a mesh with non-degenerate index triples
    that is the number of triangles containing the undirected edge `{a,b}`.
    (The second part holds for `a = b` too, see `count_symKeys`: the hypothesis `a ≠ b` is not needed.) -/
theorem entry_adjSym (ts : List Tri) (a b : Nat) :
    Coo.entry (Topo.adjSym ts) a b = (Topo.symKeys ts).count (a, b) ∧
    (Distinct ts → a ≠ b → (Topo.symKeys ts).count (a, b) = edgeCount ts a b) :=
  ⟨Topo.entry_adjSym ts a b, fun hd _ => count_symKeys ts hd a b⟩

/-- `adj_dir[a,b]` is the number of triangles containing the half-edge `a→b` -/
theorem entry_adjDir (ts : List Tri) (a b : Nat) :
    Coo.entry (Topo.adjDir ts) a b = (Topo.dirKeys ts).count (a, b) ∧
    (Distinct ts → (Topo.dirKeys ts).count (a, b) = halfEdgeCount ts a b) :=
  ⟨Topo.entry_adjDir ts a b, fun hd => count_dirKeys ts hd a b⟩

theorem entry_adjSym_eq (ts : List Tri) (hd : Distinct ts) (a b : Nat) :
    Coo.entry (Topo.adjSym ts) a b = edgeCount ts a b := by
  rw [Topo.entry_adjSym, count_symKeys ts hd]

theorem entry_adjDir_eq (ts : List Tri) (hd : Distinct ts) (a b : Nat) :
    Coo.entry (Topo.adjDir ts) a b = halfEdgeCount ts a b := by
  rw [Topo.entry_adjDir, count_dirKeys ts hd]

example : Distinct tetra := distinct_tetra
example : Distinct strip := distinct_strip
example : Coo.entry (Topo.adjSym tetra) 1 2 = 2 ∧ edgeCount tetra 1 2 = 2 := by decide
example : Coo.entry (Topo.adjSym strip) 0 1 = 1 ∧ edgeCount strip 0 1 = 1 := by decide
example : Coo.entry (Topo.adjDir strip) 1 2 = 1 ∧ Coo.entry (Topo.adjDir strip) 2 1 = 1 ∧
    halfEdgeCount strip 1 2 = 1 := by decide
/-- `Distinct` is necessary: a degenerate triple stores 2 where one triangle contains the edge -/
example : Coo.entry (Topo.adjSym [(0, 0, 1)]) 0 1 = 2 ∧ edgeCount [(0, 0, 1)] 0 1 = 1 := by decide

/-! ## 2.–4. closed / manifold / oriented -/

/-- `is_closed`: no undirected edge belongs to exactly one triangle -/
theorem isClosed_iff (ts : List Tri) (hd : Distinct ts) :
    Topo.isClosed ts = true ↔ ∀ a b, edgeCount ts a b ≠ 1 := by
  rw [Topo.isClosed_iff]
  simp only [Prod.forall, count_symKeys ts hd]

example : Topo.isClosed tetra = true := isClosed_tetra
example : ∀ a b, edgeCount tetra a b ≠ 1 := (isClosed_iff tetra distinct_tetra).1 isClosed_tetra
example : Topo.isClosed strip = false := by decide
example : ¬ ∀ a b, edgeCount strip a b ≠ 1 := fun h => h 0 1 (by decide)

/-- `is_manifold`: every undirected edge belongs to at most two triangles -/
theorem isManifold_iff (ts : List Tri) (hd : Distinct ts) :
    Topo.isManifold ts = true ↔ ∀ a b, edgeCount ts a b ≤ 2 := by
  rw [Topo.isManifold_iff]
  simp only [Prod.forall, count_symKeys ts hd]

example : Topo.isManifold tetra = true := isManifold_tetra
example : Topo.isManifold strip = true := isManifold_strip
example : ∀ a b, edgeCount strip a b ≤ 2 := (isManifold_iff strip distinct_strip).1 isManifold_strip
example : Distinct fan3 ∧ Topo.isManifold fan3 = false := ⟨by decide, isManifold_fan3⟩
example : ¬ ∀ a b, edgeCount fan3 a b ≤ 2 := fun h => absurd (h 0 1) (by decide)

/-- `is_oriented`: no directed half-edge occurs in two triangles — and the mesh is not empty
    (`np.max(...) == 1` is false, in fact raises, for an empty triangle array). -/
theorem isOriented_iff (ts : List Tri) (hd : Distinct ts) :
    Topo.isOriented ts = true ↔ ts ≠ [] ∧ ∀ a b, halfEdgeCount ts a b ≤ 1 := by
  rw [Topo.isOriented_iff]
  simp only [Prod.forall, count_dirKeys ts hd]

example : Topo.isOriented tetra = true := isOriented_tetra
example : Topo.isOriented strip = true := isOriented_strip
example : ∀ a b, halfEdgeCount strip a b ≤ 1 := ((isOriented_iff strip distinct_strip).1 isOriented_strip).2
example : Distinct stripFlipped ∧ Topo.isOriented stripFlipped = false :=
  ⟨by decide, isOriented_stripFlipped⟩
example : ¬ ∀ a b, halfEdgeCount stripFlipped a b ≤ 1 := fun h => absurd (h 1 2) (by decide)
example : Topo.isOriented [] = false := by decide

/-! ## 5. number of stored entries, Euler characteristic -/

theorem mem_symKeys_iff (ts : List Tri) (hd : Distinct ts) (a b : Nat) :
    (a, b) ∈ Topo.symKeys ts ↔ 0 < edgeCount ts a b := by
  rw [← count_symKeys ts hd, List.count_pos_iff]

/-- `undirEdges` lists exactly the pairs `a < b` that are an edge of some triangle … -/
theorem mem_undirEdges (ts : List Tri) (hd : Distinct ts) (a b : Nat) :
    (a, b) ∈ undirEdges ts ↔ a < b ∧ 0 < edgeCount ts a b := by
  unfold undirEdges
  rw [← Topo.symKeys_eq, List.mem_filter, List.mem_eraseDups, mem_symKeys_iff ts hd]
  simp [and_comm]

/-- … each once -/
theorem nodup_undirEdges (ts : List Tri) : (undirEdges ts).Nodup :=
  (List.nodup_eraseDups _).filter _

open Lemmas

/-- `adj_sym` has a symmetric sparsity pattern with empty diagonal and stores two entries per undirected edge -/
theorem nnz_adjSym (ts : List Tri) (hd : Distinct ts) :
    (∀ a b, (a, b) ∈ Coo.keys (Topo.adjSym ts) ↔ (b, a) ∈ Coo.keys (Topo.adjSym ts)) ∧
    (∀ a, (a, a) ∉ Coo.keys (Topo.adjSym ts)) ∧
    Coo.nnz (Topo.adjSym ts) = 2 * numEdges ts := by
  have hsym : ∀ a b, (a, b) ∈ Coo.keys (Topo.adjSym ts) → (b, a) ∈ Coo.keys (Topo.adjSym ts) := by
    intro a b
    rw [Topo.mem_keys_adjSym, Topo.mem_keys_adjSym]
    exact Topo.mem_symKeys_swap ts a b
  have hdiag : ∀ a, (a, a) ∉ Coo.keys (Topo.adjSym ts) := by
    intro a
    rw [Topo.mem_keys_adjSym, mem_symKeys_iff ts hd, edgeCount_self]
    omega
  refine ⟨fun a b => ⟨hsym a b, hsym b a⟩, hdiag, ?_⟩
  unfold Coo.nnz
  rw [length_symm_nodup _ (Topo.nodup_keys_adjSym ts) hsym hdiag, Topo.keys_adjSym, Topo.symKeys_eq]
  rfl

theorem usedVerts_eq (ts : List Tri) : Topo.usedVerts ts = ((allVerts ts).eraseDups).mergeSort := by
  unfold Topo.usedVerts allVerts
  congr 2

theorem usedVerts_perm (ts : List Tri) : (Topo.usedVerts ts).Perm (allVerts ts).eraseDups := by
  rw [usedVerts_eq]; exact List.mergeSort_perm _ _

theorem nodup_usedVerts (ts : List Tri) : (Topo.usedVerts ts).Nodup :=
  (usedVerts_perm ts).nodup_iff.mpr (List.nodup_eraseDups _)

/-- `np.unique` lists exactly the indices occurring in the triangle array -/
theorem mem_usedVerts (ts : List Tri) (v : Nat) :
    v ∈ Topo.usedVerts ts ↔ ∃ τ ∈ ts, v = τ.1 ∨ v = τ.2.1 ∨ v = τ.2.2 := by
  rw [(usedVerts_perm ts).mem_iff, List.mem_eraseDups]
  simp only [allVerts, triVerts, List.mem_flatMap, List.mem_cons, List.not_mem_nil, or_false]

theorem length_usedVerts (ts : List Tri) : (Topo.usedVerts ts).length = (allVerts ts).eraseDups.length :=
  (usedVerts_perm ts).length_eq

/-- `euler = V − E + F` with `V` = number of used vertices, `E` = number of distinct undirected edges,
    `F` = number of triangles -/
theorem euler_spec (ts : List Tri) (hd : Distinct ts) :
    Topo.euler ts = ((Topo.usedVerts ts).length : Int) - (numEdges ts : Int) + (ts.length : Int) := by
  unfold Topo.euler
  rw [(nnz_adjSym ts hd).2.2, Nat.mul_div_cancel_left _ (by decide : 0 < 2)]

example : Coo.nnz (Topo.adjSym tetra) = 12 ∧ numEdges tetra = 6 := by decide
example : Topo.euler tetra = 2 := by
  rw [euler_spec tetra distinct_tetra, length_usedVerts]; decide
example : Topo.euler strip = 1 := by
  rw [euler_spec strip distinct_strip, length_usedVerts]; decide
/-- without `Distinct` a diagonal key is stored and `nnz` is odd -/
example : (0, 0) ∈ Coo.keys (Topo.adjSym [(0, 0, 1)]) ∧ Coo.nnz (Topo.adjSym [(0, 0, 1)]) = 3 := by decide

/-! ## 6. free vertices -/

/-- `has_free_vertices`: some vertex index `< nv` is used by no triangle (needs all indices in range; otherwise
    an out-of-range index is counted as used, e.g. `nv = 3`, `ts = [(0,1,5)]` gives `false` although 2 is free) -/
theorem hasFree_iff (nv : Nat) (ts : List Tri) (hr : InRange nv ts) :
    Topo.hasFreeVertices nv ts = true ↔ ∃ v < nv, ∀ τ ∈ ts, v ≠ τ.1 ∧ v ≠ τ.2.1 ∧ v ≠ τ.2.2 := by
  have hlt : ∀ x ∈ Topo.usedVerts ts, x < nv := by
    intro x hx
    obtain ⟨τ, hτ, h⟩ := (mem_usedVerts ts x).1 hx
    have := hr τ hτ
    omega
  have key := nodup_length_eq_iff (Topo.usedVerts ts) nv (nodup_usedVerts ts) hlt
  unfold Topo.hasFreeVertices
  rw [bne_iff_ne, Ne, eq_comm, key]
  simp only [mem_usedVerts]
  push Not
  rfl

example : InRange 4 tetra := by decide
example : Topo.hasFreeVertices 4 tetra = false := by
  unfold Topo.hasFreeVertices; rw [length_usedVerts]; decide
example : InRange 5 tetra ∧ ∃ v < 5, ∀ τ ∈ tetra, v ≠ τ.1 ∧ v ≠ τ.2.1 ∧ v ≠ τ.2.2 :=
  ⟨by decide, 4, by decide, by decide⟩
example : Topo.hasFreeVertices 5 tetra = true :=
  (hasFree_iff 5 tetra (by decide)).2 ⟨4, by decide, by decide⟩

/-! ## 7. vertex degrees -/

theorem isVert_of_hasEdge {τ : Tri} {a b : Nat} (h : hasEdge τ a b = true) : isVert τ a = true := by
  simp only [hasEdge, Bool.and_eq_true] at h
  exact h.1.1

theorem mem_allVerts (ts : List Tri) (v : Nat) : v ∈ allVerts ts ↔ ∃ τ ∈ ts, isVert τ v = true := by
  simp only [allVerts, triVerts, List.mem_flatMap, List.mem_cons, List.not_mem_nil, or_false, isVert, Bool.or_eq_true,
    beq_iff_eq, or_assoc]

/-- the neighbour list contains exactly the vertices joined to `j` by an edge … -/
theorem mem_neighbours (ts : List Tri) (i j : Nat) : i ∈ neighbours ts j ↔ 0 < edgeCount ts i j := by
  unfold neighbours
  rw [List.mem_eraseDups, List.mem_filter, decide_eq_true_eq, mem_allVerts]
  constructor
  · exact fun h => h.2
  · intro h
    refine ⟨?_, h⟩
    obtain ⟨τ, hτ, he⟩ := (edgeCount_pos_iff ts i j).1 h
    exact ⟨τ, hτ, isVert_of_hasEdge he⟩

/-- … each once -/
theorem nodup_neighbours (ts : List Tri) (j : Nat) : (neighbours ts j).Nodup := List.nodup_eraseDups _

theorem length_vertexDegrees (nv : Nat) (ts : List Tri) : (Topo.vertexDegrees nv ts).length = nv := by
  simp [Topo.vertexDegrees]

/-- `vertex_degrees[j]` is the number of distinct neighbours of `j` -/
theorem vertexDegrees_spec (nv : Nat) (ts : List Tri) (hd : Distinct ts) (j : Nat) (hj : j < nv) :
    (Topo.vertexDegrees nv ts)[j]? = some (neighbours ts j).length := by
  unfold Topo.vertexDegrees
  simp only [List.getElem?_map, List.getElem?_range hj, Option.map_some, Option.some.injEq]
  have hnd : ((Coo.keys (Topo.adjSym ts)).filter fun k => k.2 == j).Nodup := (Topo.nodup_keys_adjSym ts).filter _
  rw [← List.length_map (f := Prod.fst)]
  apply List.length_eq_of_nodup_of_mem_iff
  · apply hnd.map_on
    rintro ⟨a, b⟩ hx ⟨c, d⟩ hy h
    simp only [List.mem_filter, beq_iff_eq] at hx hy
    simp only at h
    rw [h, hx.2, hy.2]
  · exact nodup_neighbours ts j
  · intro i
    rw [mem_neighbours, ← mem_symKeys_iff ts hd, ← Topo.mem_keys_adjSym]
    simp only [List.mem_map, List.mem_filter, beq_iff_eq, Prod.exists, exists_and_right, exists_eq_right]

example : Topo.vertexDegrees 4 tetra = [3, 3, 3, 3] := by decide
example : (neighbours tetra 0).length = 3 := by decide
example : Topo.vertexDegrees 5 strip = [2, 3, 3, 2, 0] := by decide
example : (Topo.vertexDegrees 5 strip)[1]? = some (neighbours strip 1).length :=
  vertexDegrees_spec 5 strip distinct_strip 1 (by decide)

/-! ## 8. `boundary_loops` error paths -/

theorem loops_errors (ts : List Tri) :
    (Topo.isManifold ts = false → Topo.boundaryLoops ts = .valueError) ∧
    (Topo.isManifold ts = true → Topo.isClosed ts = true → Topo.boundaryLoops ts = .loops []) ∧
    (Topo.isManifold ts = true → Topo.isClosed ts = false → Topo.isOriented ts = false →
      Topo.boundaryLoops ts = .valueError) := by
  refine ⟨?_, ?_, ?_⟩
  · intro h; simp [Topo.boundaryLoops, h]
  · intro h1 h2; simp [Topo.boundaryLoops, h1, h2]
  · intro h1 h2 h3; simp [Topo.boundaryLoops, h1, h2, h3]

example : Topo.isManifold fan3 = false ∧ Topo.boundaryLoops fan3 = .valueError :=
  ⟨isManifold_fan3, (loops_errors fan3).1 isManifold_fan3⟩
example : Topo.boundaryLoops tetra = .loops [] := (loops_errors tetra).2.1 isManifold_tetra isClosed_tetra
example : Topo.boundaryLoops stripFlipped = .valueError :=
  (loops_errors stripFlipped).2.2 (by decide) (by decide) isOriented_stripFlipped

/-! ## 9. `edges` error path -/

theorem edges_error (ts : List Tri) (h : Topo.isOriented ts = false) : Topo.edges ts = none := by
  simp [Topo.edges, h]

example : Topo.edges stripFlipped = none := edges_error _ isOriented_stripFlipped
example : Topo.edges [] = none := edges_error _ (by decide)

/-! ## 10. `edges` on an oriented mesh -/

def triDirTid (x : Tri × Nat) : Coo Nat :=
  [((x.1.1, x.1.2.1), x.2 + 1), ((x.1.2.1, x.1.2.2), x.2 + 1), ((x.1.2.2, x.1.1), x.2 + 1)]

theorem dirTidx_eq (ts : List Tri) : Topo.dirTidx ts = ts.zipIdx.flatMap triDirTid := by
  unfold Topo.dirTidx
  congr 1

theorem entry_append (l₁ l₂ : Coo Nat) (a b : Nat) :
    Coo.entry (l₁ ++ l₂) a b = Coo.entry l₁ a b + Coo.entry l₂ a b := by
  simp [Coo.entry, List.filter_append, List.map_append, List.sum_append]

theorem entry_triDirTid (τ : Tri) (k a b : Nat) (h : OrientMesh.TriDistinct τ) :
    Coo.entry (triDirTid (τ, k)) a b = if hasHalfEdge τ a b then k + 1 else 0 := by
  rw [show triDirTid (τ, k) = (OrientLemmas.dirEdges τ).map fun e => (e, k + 1) from rfl, entry_map_const,
    count_dirEdges τ a b h]
  split <;> simp

theorem keys_dirTidx (ts : List Tri) : Coo.keys (Topo.dirTidx ts) = (Topo.dirKeys ts).eraseDups := by
  unfold Coo.keys
  rw [dirTidx_eq, List.map_flatMap, Topo.dirKeys_eq]
  exact congrArg List.eraseDups (zipIdx_flatMap_fst ts 0 OrientLemmas.dirEdges)

/-- the stored tidx value is the sum of `index + 1` over the triangles that contain the half-edge -/
theorem entry_tid_eq (ts : List Tri) (hd : Distinct ts) (a b : Nat) (n : Nat) :
    Coo.entry ((ts.zipIdx n).flatMap triDirTid) a b =
      (((ts.zipIdx n).filter fun p => hasHalfEdge p.1 a b).map fun p => p.2 + 1).sum := by
  induction ts generalizing n with
  | nil => rfl
  | cons τ ts ih =>
    rw [List.zipIdx_cons, List.flatMap_cons, entry_append, entry_triDirTid τ n a b (hd τ List.mem_cons_self),
      ih hd.tail, List.filter_cons]
    split <;> simp

theorem length_filter_zipIdx (ts : List Tri) (a b : Nat) :
    (ts.zipIdx.filter fun x => hasHalfEdge x.1 a b).length = halfEdgeCount ts a b := by
  rw [halfEdgeCount, ← List.length_map (f := Prod.fst)]
  exact congrArg List.length ((List.filter_map (f := Prod.fst) (p := fun τ => hasHalfEdge τ a b)).symm.trans
    (congrArg _ (List.zipIdx_map_fst 0 ts)))

/-- if exactly one triangle contains the half-edge `a→b`, the stored tidx value is its index + 1 -/
theorem entry_dirTidx (ts : List Tri) (hd : Distinct ts) (a b : Nat) (h : halfEdgeCount ts a b = 1) :
    ∃ p τ, ts[p]? = some τ ∧ hasHalfEdge τ a b = true ∧ Coo.entry (Topo.dirTidx ts) a b = p + 1 := by
  obtain ⟨⟨τ, p⟩, hx⟩ := List.length_eq_one_iff.1 ((length_filter_zipIdx ts a b).trans h)
  have hmem : (τ, p) ∈ ts.zipIdx.filter fun x => hasHalfEdge x.1 a b := by rw [hx]; exact List.mem_singleton_self _
  rw [List.mem_filter] at hmem
  refine ⟨p, τ, List.mk_mem_zipIdx_iff_getElem?.1 hmem.1, hmem.2, ?_⟩
  rw [dirTidx_eq, entry_tid_eq ts hd, hx]
  simp

theorem halfEdge_index_unique (ts : List Tri) (a b : Nat) (h : halfEdgeCount ts a b ≤ 1) (p q : Nat) (τ σ : Tri)
    (hp : ts[p]? = some τ) (hq : ts[q]? = some σ) (hτ : hasHalfEdge τ a b = true) (hσ : hasHalfEdge σ a b = true) :
    p = q := by
  obtain ⟨hp', rfl⟩ := List.getElem?_eq_some_iff.1 hp
  obtain ⟨hq', rfl⟩ := List.getElem?_eq_some_iff.1 hq
  have hpw := List.pairwise_iff_getElem.1 (List.length_filter_le_one_iff.1 h)
  by_contra hne
  rcases Nat.lt_or_gt_of_ne hne with h1 | h1
  · exact hpw p q hp' hq' h1 ⟨hτ, hσ⟩
  · exact hpw q p hq' hp' h1 ⟨hσ, hτ⟩

theorem halfEdgeCount_le_one (ts : List Tri) (hd : Distinct ts) (ho : Topo.isOriented ts = true) (a b : Nat) :
    halfEdgeCount ts a b ≤ 1 := ((isOriented_iff ts hd).1 ho).2 a b

/-- oriented implies manifold (for every triangle list: `Topo.isManifold_of_isOriented`) -/
theorem isManifold_of_isOriented (ts : List Tri) (hd : Distinct ts) (ho : Topo.isOriented ts = true) :
    Topo.isManifold ts = true :=
  Topo.isManifold_of_isOriented ts ho

/-- boundary keys: stored symmetric keys with value 1, sorted -/
def bdKeys (ts : List Tri) : List (Nat × Nat) :=
  ((Coo.keys (Topo.adjSym ts)).filter fun k => Coo.entry (Topo.adjSym ts) k.1 k.2 == 1).mergeSort
    (fun a b => Topo.lexLe a b)

/-- stored half-edge keys that are not boundary keys -/
def interiorHalfEdges (ts : List Tri) : List (Nat × Nat) :=
  (Coo.keys (Topo.dirTidx ts)).filter fun k => !(bdKeys ts).contains k

def upperKeys (ts : List Tri) : List (Nat × Nat) :=
  ((interiorHalfEdges ts).filter fun k => k.1 ≤ k.2).mergeSort (fun a b => Topo.lexLe a b)

def upperKeysT (ts : List Tri) : List (Nat × Nat) :=
  (((interiorHalfEdges ts).map fun k => (k.2, k.1)).filter fun k => k.1 ≤ k.2).mergeSort
    (fun a b => Topo.lexLe a b)

theorem edges_eq (ts : List Tri) (ho : Topo.isOriented ts = true) :
    ∃ r, Topo.edges ts = some r ∧ r.vids = upperKeys ts ∧
      r.tids = ((upperKeys ts).zip (upperKeysT ts)).map fun (k, k') =>
        (((Coo.entry (Topo.dirTidx ts) k.1 k.2 : Nat) : Int) - 1,
         ((Coo.entry (Topo.dirTidx ts) k'.2 k'.1 : Nat) : Int) - 1) := by
  unfold Topo.edges
  simp only [ho, Bool.not_true, Bool.false_eq_true, if_false]
  exact ⟨_, rfl, rfl, rfl⟩

theorem mem_bdKeys (ts : List Tri) (hd : Distinct ts) (a b : Nat) :
    (a, b) ∈ bdKeys ts ↔ edgeCount ts a b = 1 := by
  unfold bdKeys
  rw [(List.mergeSort_perm _ _).mem_iff, List.mem_filter, Topo.mem_keys_adjSym, mem_symKeys_iff ts hd,
    beq_iff_eq, entry_adjSym_eq ts hd]
  dsimp only
  omega

theorem mem_interiorHalfEdges (ts : List Tri) (hd : Distinct ts) (a b : Nat) :
    (a, b) ∈ interiorHalfEdges ts ↔ 0 < halfEdgeCount ts a b ∧ edgeCount ts a b ≠ 1 := by
  unfold interiorHalfEdges
  rw [List.mem_filter, keys_dirTidx, List.mem_eraseDups, ← List.count_pos_iff, count_dirKeys ts hd,
    Bool.not_eq_true', ← Bool.not_eq_true, List.contains_iff_mem, mem_bdKeys ts hd]

theorem mem_interiorHalfEdges' (ts : List Tri) (hd : Distinct ts) (ho : Topo.isOriented ts = true) (a b : Nat) :
    (a, b) ∈ interiorHalfEdges ts ↔ edgeCount ts a b = 2 := by
  rw [mem_interiorHalfEdges ts hd, edgeCount_eq_add ts hd]
  have h1 := halfEdgeCount_le_one ts hd ho a b
  have h2 := halfEdgeCount_le_one ts hd ho b a
  omega

theorem nodup_interiorHalfEdges (ts : List Tri) : (interiorHalfEdges ts).Nodup := by
  unfold interiorHalfEdges
  rw [keys_dirTidx]
  exact (List.nodup_eraseDups _).filter _

theorem mem_upperKeys (ts : List Tri) (hd : Distinct ts) (ho : Topo.isOriented ts = true) (a b : Nat) :
    (a, b) ∈ upperKeys ts ↔ a < b ∧ edgeCount ts a b = 2 := by
  unfold upperKeys
  rw [(List.mergeSort_perm _ _).mem_iff, List.mem_filter, mem_interiorHalfEdges' ts hd ho, decide_eq_true_eq]
  constructor
  · rintro ⟨h1, h2⟩
    refine ⟨?_, h1⟩
    have : a ≠ b := by rintro rfl; rw [edgeCount_self] at h1; omega
    show a < b
    have h2' : a ≤ b := h2
    omega
  · rintro ⟨h1, h2⟩; exact ⟨h2, Nat.le_of_lt h1⟩

theorem nodup_upperKeys (ts : List Tri) : (upperKeys ts).Nodup :=
  (List.mergeSort_perm _ _).nodup_iff.mpr ((nodup_interiorHalfEdges ts).filter _)

theorem upperKeysT_eq (ts : List Tri) (hd : Distinct ts) (ho : Topo.isOriented ts = true) :
    upperKeysT ts = upperKeys ts := by
  unfold upperKeysT upperKeys
  apply Topo.sortLex_eq
  · apply List.Nodup.filter
    apply (nodup_interiorHalfEdges ts).map
    rintro ⟨a, b⟩ ⟨c, d⟩ h
    simp only [Prod.mk.injEq] at h
    simp [h.1, h.2]
  · exact (nodup_interiorHalfEdges ts).filter _
  · rintro ⟨a, b⟩
    simp only [List.mem_filter, List.mem_map, Prod.exists, Prod.mk.injEq, decide_eq_true_eq]
    constructor
    · rintro ⟨⟨c, d, h, rfl, rfl⟩, hle⟩
      rw [mem_interiorHalfEdges' ts hd ho] at h ⊢
      rw [edgeCount_comm]; exact ⟨h, hle⟩
    · rintro ⟨h, hle⟩
      refine ⟨⟨b, a, ?_, rfl, rfl⟩, hle⟩
      rw [mem_interiorHalfEdges' ts hd ho] at h ⊢
      rw [edgeCount_comm]; exact h

/-- `edges`: for an oriented mesh with non-degenerate index triples (such a mesh is manifold, see
    `isManifold_of_isOriented`), `vids` lists exactly the undirected edges shared by two triangles, each once, as
    `(i,j)` with `i < j`, in lexicographic order; `tids[n] = (p, q)` where `p` is the index of the triangle
    containing the half-edge `i→j` and `q ≠ p` the index of the one containing `j→i` (these indices are unique,
    see `halfEdge_index_unique`). -/
theorem edges_spec (ts : List Tri) (hd : Distinct ts) (ho : Topo.isOriented ts = true) :
    ∃ r, Topo.edges ts = some r ∧
      r.vids.Nodup ∧
      r.vids.Pairwise (fun a b => Topo.lexLe a b = true) ∧
      (∀ i j, (i, j) ∈ r.vids ↔ i < j ∧ edgeCount ts i j = 2) ∧
      r.tids.length = r.vids.length ∧
      ∀ (n i j : Nat), r.vids[n]? = some (i, j) →
        ∃ (p q : Nat) (τp τq : Tri), r.tids[n]? = some ((p : Int), (q : Int)) ∧ p ≠ q ∧
          ts[p]? = some τp ∧ hasHalfEdge τp i j = true ∧
          ts[q]? = some τq ∧ hasHalfEdge τq j i = true := by
  obtain ⟨r, hr, hv, ht⟩ := edges_eq ts ho
  rw [upperKeysT_eq ts hd ho, List.zip, List.zipWith_self, List.map_map] at ht
  refine ⟨r, hr, ?_, ?_, ?_, ?_, ?_⟩
  · rw [hv]; exact nodup_upperKeys ts
  · rw [hv]; exact Topo.pairwise_sortLex _
  · rw [hv]; exact mem_upperKeys ts hd ho
  · rw [ht, hv, List.length_map]
  · intro n i j hn
    rw [hv] at hn
    have hmem : (i, j) ∈ upperKeys ts := List.mem_of_getElem? hn
    obtain ⟨hlt, h2⟩ := (mem_upperKeys ts hd ho i j).1 hmem
    have h1 := halfEdgeCount_le_one ts hd ho i j
    have h1' := halfEdgeCount_le_one ts hd ho j i
    rw [edgeCount_eq_add ts hd] at h2
    obtain ⟨p, τp, hp, hτp, hep⟩ := entry_dirTidx ts hd i j (by omega)
    obtain ⟨q, τq, hq, hτq, heq⟩ := entry_dirTidx ts hd j i (by omega)
    refine ⟨p, q, τp, τq, ?_, ?_, hp, hτp, hq, hτq⟩
    · rw [ht, List.getElem?_map, hn]
      simp only [Option.map_some, Function.comp_apply, hep, heq, Option.some.injEq, Prod.mk.injEq]
      constructor <;> omega
    · rintro rfl
      rw [hp] at hq
      simp only [Option.some.injEq] at hq
      subst hq
      exact (hasEdge_eq_or τp i j (hd τp (List.mem_of_getElem? hp))).2 ⟨hτp, hτq⟩

example : ∃ r, Topo.edges tetra = some r ∧ (0, 1) ∈ r.vids ∧ (1, 0) ∉ r.vids := by
  obtain ⟨r, hr, _, _, hm, _⟩ := edges_spec tetra distinct_tetra isOriented_tetra
  exact ⟨r, hr, (hm 0 1).2 (by decide), fun h => absurd ((hm 1 0).1 h).1 (by decide)⟩
example : ∃ r, Topo.edges strip = some r ∧ (1, 2) ∈ r.vids ∧ (0, 1) ∉ r.vids := by
  obtain ⟨r, hr, _, _, hm, _⟩ := edges_spec strip distinct_strip isOriented_strip
  exact ⟨r, hr, (hm 1 2).2 (by decide), fun h => absurd ((hm 0 1).1 h).2 (by decide)⟩

/-! ## 11. `boundary_loops` on a boundary whose predecessor map is a permutation

`Lemmas.PermLike bd`: `bd` is duplicate-free, every vertex has at most one outgoing half-edge and every vertex with
an outgoing half-edge has an incoming one.  (Then, by counting, every vertex has exactly one incoming half-edge as
well, so "at most one incoming" need not be assumed.)  `Lemmas.cycleEdges l` are the half-edges
`(l[k+1], l[k])` of the cyclic vertex list `l`, including the closing one `(l[0], l[last])`. -/

theorem cycleEdges_consecutive (l : List Nat) (k : Nat) (h : k + 1 < l.length) :
    (l[k + 1], l[k]) ∈ cycleEdges l := by
  refine List.mem_of_getElem? (i := k) (List.getElem?_zip_eq_some.2 ⟨?_, List.getElem?_eq_getElem _⟩)
  rw [List.getElem?_append_left (by rw [List.length_drop]; omega), List.getElem?_drop, Nat.add_comm,
    List.getElem?_eq_getElem h]

theorem cycleEdges_closing (l : List Nat) (h : 0 < l.length) :
    (l[0], l[l.length - 1]) ∈ cycleEdges l := by
  refine List.mem_of_getElem? (i := l.length - 1) (List.getElem?_zip_eq_some.2 ⟨?_, List.getElem?_eq_getElem _⟩)
  rw [List.getElem?_append_right (by rw [List.length_drop]; exact Nat.le_refl _), List.length_drop, Nat.sub_self,
    List.getElem?_take, if_pos Nat.zero_lt_one, List.getElem?_eq_getElem h]

/-- `loopsFrom` with the fuel the model supplies terminates; every returned loop is a non-empty duplicate-free vertex
    list whose consecutive entries `(l[k+1], l[k])` and closing pair `(l[0], l[last])` are half-edges of `bd`;
    and the half-edges of all loops together are exactly the half-edges of `bd`, each used once. -/
theorem loops_spec (bd : List (Nat × Nat)) (hP : PermLike bd) :
    ∃ loops, Topo.loopsFrom (bd.length + 1) bd [] = some loops ∧
      (∀ l ∈ loops, l.Nodup ∧ l ≠ []) ∧
      (∀ l ∈ loops, ∀ (k : Nat) (h : k + 1 < l.length), (l[k + 1], l[k]) ∈ bd) ∧
      (∀ l ∈ loops, ∀ (h : 0 < l.length), (l[0], l[l.length - 1]) ∈ bd) ∧
      (loops.flatMap cycleEdges).Perm bd := by
  obtain ⟨loops, hl, hall, hperm⟩ := loopsFrom_spec (bd.length + 1) bd [] hP (by omega)
  have hsub : ∀ l ∈ loops, ∀ e ∈ cycleEdges l, e ∈ bd := by
    intro l hl' e he
    exact hperm.mem_iff.mp (List.mem_flatMap.mpr ⟨l, hl', he⟩)
  refine ⟨loops, by simpa using hl, hall, ?_, ?_, hperm⟩
  · intro l hl' k h; exact hsub l hl' _ (cycleEdges_consecutive l k h)
  · intro l hl' h; exact hsub l hl' _ (cycleEdges_closing l h)

/-- consequence for `boundary_loops`: on an open oriented manifold mesh whose boundary half-edges are
    permutation-like the result is a list of loops (neither `ValueError` nor non-termination): duplicate-free,
    non-empty, and together using every boundary half-edge exactly once.  (The clauses of `loops_spec` on consecutive
    and closing half-edges are not repeated here; `hm` follows from `ho`, `Topo.isManifold_of_isOriented`.) -/
theorem boundaryLoops_spec (ts : List Tri) (hm : Topo.isManifold ts = true) (hc : Topo.isClosed ts = false)
    (ho : Topo.isOriented ts = true) (hP : PermLike (Topo.boundaryHalfEdges ts)) :
    ∃ loops, Topo.boundaryLoops ts = .loops loops ∧
      (∀ l ∈ loops, l.Nodup ∧ l ≠ []) ∧
      (loops.flatMap cycleEdges).Perm (Topo.boundaryHalfEdges ts) := by
  obtain ⟨loops, hl, hall, _, _, hperm⟩ := loops_spec _ hP
  refine ⟨loops, ?_, hall, hperm⟩
  simp only [Topo.boundaryLoops, hm, hc, ho, Bool.not_true, Bool.false_eq_true, if_false, hl]

theorem boundaryHalfEdges_strip : Topo.boundaryHalfEdges strip = [(0, 1), (2, 0), (1, 3), (3, 2)] := by decide

/-- `PermLike` with its quantifiers bounded by the list: decidable -/
theorem permLike_of {bd : List (Nat × Nat)} (h1 : bd.Nodup) (h2 : ∀ e ∈ bd, ∀ e' ∈ bd, e.1 = e'.1 → e.2 = e'.2)
    (h3 : ∀ e ∈ bd, ∃ e' ∈ bd, e'.2 = e.1) : PermLike bd :=
  ⟨h1, fun a c c' h h' => h2 (a, c) h (a, c') h' rfl, fun a c h => by
    obtain ⟨e', he', rfl⟩ := h3 (a, c) h
    exact ⟨e'.1, he'⟩⟩

example : PermLike (Topo.boundaryHalfEdges strip) := by
  rw [boundaryHalfEdges_strip]
  exact permLike_of (by decide) (by decide) (by decide)
example : Topo.loopsFrom 5 [(0, 1), (2, 0), (1, 3), (3, 2)] [] = some [[0, 2, 3, 1]] := by decide
example : cycleEdges [0, 2, 3, 1] = [(2, 0), (3, 2), (1, 3), (0, 1)] := by decide
example : Topo.boundaryLoops strip = .loops [[0, 2, 3, 1]] := by rfl
/-- `PermLike` is sufficient, not necessary: on a "bow-tie" boundary (vertex 0 has two outgoing and two incoming
    half-edges) the hypothesis fails, and the code still returns two loops, both through vertex 0. -/
example : Topo.loopsFrom 7 [(0, 1), (1, 2), (2, 0), (0, 3), (3, 4), (4, 0)] [] = some [[0, 2, 1], [0, 4, 3]] := by
  decide
example : ¬ PermLike [(0, 1), (1, 2), (2, 0), (0, 3), (3, 4), (4, 0)] := by
  intro h
  have := h.out_unique 0 1 3 (by decide) (by decide)
  omega

end LapyVerif.Props.C09
