import Mathlib.Algebra.BigOperators.Group.List.Basic
import Mathlib.Algebra.Order.BigOperators.Group.List
import LapyVerif.Lemmas.RealInst
import LapyVerif.Lemmas.ListSum
import LapyVerif.Model.Transfer
/-
  Helper lemmas for C15 (`map_tfunc_to_vfunc`, `map_vfunc_to_tfunc`, `smooth_vfunc`): componentwise reading of the row
  operations, single-column ("scalar") versions of the three maps, and the column-by-column correspondence between the
  list-of-rows model and the scalar versions.
-/
namespace LapyVerif
namespace TransferLemmas
open Transfer

def Rect (cols : Nat) (f : List (List ℝ)) : Prop := ∀ r ∈ f, r.length = cols
def col (k : Nat) (f : List (List ℝ)) : List ℝ := f.map (·.getD k 0)

theorem col_length (k : Nat) (f : List (List ℝ)) : (col k f).length = f.length := by simp [col]

theorem rect_map {ι : Type} {cols : Nat} (l : List ι) (F : ι → List ℝ) (h : ∀ a, (F a).length = cols) :
    Rect cols (l.map F) := by
  intro r hr
  obtain ⟨a, _, rfl⟩ := List.mem_map.1 hr
  exact h a

theorem Rect.head {cols : Nat} {f : List (List ℝ)} (h : Rect cols f) (hne : f ≠ []) : (f.headD []).length = cols := by
  cases f with
  | nil => exact absurd rfl hne
  | cons r f => exact h r List.mem_cons_self

/-- the row length the model reads off the first row fits all rows (there are none when the input is empty) -/
theorem Rect.headD {cols : Nat} {f : List (List ℝ)} (h : Rect cols f) : Rect (f.headD []).length f :=
  fun r hr => (h r hr).trans (h.head (List.ne_nil_of_mem hr)).symm

theorem length_rowAdd (a b : List ℝ) : (rowAdd a b).length = min a.length b.length := by simp [rowAdd]

theorem getD_zipWith (f : ℝ → ℝ → ℝ) (hf : f 0 0 = 0) {a b : List ℝ} (h : a.length = b.length) (k : Nat) :
    (List.zipWith f a b).getD k 0 = f (a.getD k 0) (b.getD k 0) := by
  simp only [List.getD_eq_getElem?_getD, List.getElem?_zipWith]
  rcases Nat.lt_or_ge k a.length with hk | hk
  · rw [List.getElem?_eq_getElem hk, List.getElem?_eq_getElem (h ▸ hk)]; rfl
  · rw [List.getElem?_eq_none hk, List.getElem?_eq_none (h ▸ hk)]; exact hf.symm

theorem getD_rowAdd {a b : List ℝ} (h : a.length = b.length) (k : Nat) :
    (rowAdd a b).getD k 0 = a.getD k 0 + b.getD k 0 := getD_zipWith (· + ·) (add_zero 0) h k

theorem getD_map {α β : Type} (f : α → β) {d : α} {d' : β} (hf : f d = d') (l : List α) (i : Nat) :
    (l.map f).getD i d' = f (l.getD i d) := by
  simp only [List.getD_eq_getElem?_getD, List.getElem?_map]
  cases l[i]? <;> simp [hf]

theorem getD_rowDiv (a : List ℝ) (c : ℝ) (k : Nat) : (rowDiv a c).getD k 0 = a.getD k 0 / c :=
  getD_map (· / c) (zero_div c) a k

theorem getD_rowScale (a : List ℝ) (c : ℝ) (k : Nat) : (rowScale c a).getD k 0 = c * a.getD k 0 :=
  getD_map (c * ·) (mul_zero c) a k

theorem getD_rowZero (n k : Nat) : (rowZero n : List ℝ).getD k 0 = 0 := by
  simp only [rowZero, List.getD_eq_getElem?_getD, List.getElem?_replicate]
  split <;> simp

theorem length_rowZero (n : Nat) : (rowZero n : List ℝ).length = n := by simp [rowZero]
theorem length_rowDiv (a : List ℝ) (c : ℝ) : (rowDiv a c).length = a.length := by simp [rowDiv]
theorem length_rowScale (a : List ℝ) (c : ℝ) : (rowScale c a).length = a.length := by simp [rowScale]

theorem sum_range_indicator (a nv : Nat) (x : ℝ) :
    ((List.range nv).map fun i => if a = i then x else 0).sum = if a < nv then x else 0 := by
  simp only [@eq_comm _ a]
  rw [List.sum_map_ite_eq (List.range nv) (fun _ => x) (fun _ => 0) a, List.count_range]
  split <;> simp

theorem sum_map_div' {α : Type} (l : List α) (f : α → ℝ) (c : ℝ) :
    (l.map fun x => f x / c).sum = (l.map f).sum / c := List.sum_map_div l f c

theorem convex_sum_mem {ι : Type} (l : List ι) (w x : ι → ℝ) {lo hi : ℝ} (hw : ∀ j ∈ l, 0 ≤ w j)
    (hsum : (l.map w).sum = 1) (hx : ∀ j ∈ l, lo ≤ x j ∧ x j ≤ hi) :
    lo ≤ (l.map fun j => w j * x j).sum ∧ (l.map fun j => w j * x j).sum ≤ hi := by
  constructor
  · calc lo = (l.map fun j => w j * lo).sum := by rw [List.sum_map_mul_right, hsum, one_mul]
      _ ≤ _ := List.sum_le_sum fun j hj => mul_le_mul_of_nonneg_left (hx j hj).1 (hw j hj)
  · calc _ ≤ (l.map fun j => w j * hi).sum := List.sum_le_sum fun j hj => mul_le_mul_of_nonneg_left (hx j hj).2 (hw j hj)
      _ = hi := by rw [List.sum_map_mul_right, hsum, one_mul]

/-- number of corners of `τ` that are vertex `i` (as a real) -/
def corner (τ : Tri) (i : Nat) : ℝ :=
  (if τ.1 = i then 1 else 0) + (if τ.2.1 = i then 1 else 0) + (if τ.2.2 = i then 1 else 0)

theorem corner_mul (τ : Tri) (i : Nat) (x : ℝ) :
    corner τ i * x = (if τ.1 = i then x else 0) + (if τ.2.1 = i then x else 0) + (if τ.2.2 = i then x else 0) := by
  simp only [corner, add_mul, ite_mul, one_mul, zero_mul]

/-- the (possibly area-weighted) rows that are scattered -/
noncomputable def wrows (vtx : Nat → V3 ℝ) (ts : List Tri) (tf : List (List ℝ)) (weighted : Bool) : List (List ℝ) :=
  (tf.zip (Measures.triAreas vtx ts)).map fun p => if weighted then p.1.map (· * p.2) else p.1

/-- the accumulation step for vertex `i` -/
def t2vStep (i : Nat) (acc : List ℝ) (p : Tri × List ℝ) : List ℝ :=
  let acc := if p.1.1 = i then rowAdd acc p.2 else acc
  let acc := if p.1.2.1 = i then rowAdd acc p.2 else acc
  if p.1.2.2 = i then rowAdd acc p.2 else acc

theorem t2v_eq (nv : Nat) (vtx : Nat → V3 ℝ) (ts : List Tri) (tf : List (List ℝ)) (w : Bool) :
    t2v nv vtx ts tf w = (List.range nv).map fun i =>
      rowDiv ((ts.zip (wrows vtx ts tf w)).foldl (t2vStep i) (rowZero (tf.headD []).length)) ((3 : Nat) : ℝ) := rfl

/-- a row of `cols` entries whose entry `k` is `x`: what the folds over rows keep track of -/
def RowAt (cols k : Nat) (r : List ℝ) (x : ℝ) : Prop := r.length = cols ∧ r.getD k 0 = x

section rowAt
variable {cols k : Nat} {a b : List ℝ} {x y : ℝ}

theorem RowAt.zero (cols k : Nat) : RowAt cols k (rowZero cols) 0 := ⟨length_rowZero _, getD_rowZero _ _⟩

theorem RowAt.of_length (h : a.length = cols) : RowAt cols k a (a.getD k 0) := ⟨h, rfl⟩

theorem RowAt.add (ha : RowAt cols k a x) (hb : RowAt cols k b y) : RowAt cols k (rowAdd a b) (x + y) :=
  ⟨by rw [length_rowAdd, ha.1, hb.1, Nat.min_self], by rw [getD_rowAdd (ha.1.trans hb.1.symm), ha.2, hb.2]⟩

theorem RowAt.scale (w : ℝ) (ha : RowAt cols k a x) : RowAt cols k (rowScale w a) (w * x) :=
  ⟨by rw [length_rowScale, ha.1], by rw [getD_rowScale, ha.2]⟩

theorem RowAt.div (c : ℝ) (ha : RowAt cols k a x) : RowAt cols k (rowDiv a c) (x / c) :=
  ⟨by rw [length_rowDiv, ha.1], by rw [getD_rowDiv, ha.2]⟩

theorem RowAt.condAdd (c : Prop) [Decidable c] (ha : RowAt cols k a x) (hb : RowAt cols k b y) :
    RowAt cols k (if c then rowAdd a b else a) (x + if c then y else 0) := by
  split
  · exact ha.add hb
  · rwa [add_zero]

theorem RowAt.foldl {ι : Type} {step : List ℝ → ι → List ℝ} {v : ι → ℝ} (L : List ι)
    (hstep : ∀ acc z, ∀ p ∈ L, RowAt cols k acc z → RowAt cols k (step acc p) (z + v p)) (ha : RowAt cols k a x) :
    RowAt cols k (L.foldl step a) (x + (L.map v).sum) := by
  induction L generalizing a x with
  | nil => rwa [List.map_nil, List.sum_nil, add_zero]
  | cons p L ih =>
    rw [List.foldl_cons, List.map_cons, List.sum_cons, ← add_assoc]
    exact ih (fun acc z q hq => hstep acc z q (List.mem_cons_of_mem _ hq)) (hstep a x p List.mem_cons_self ha)
end rowAt

theorem t2v_fold (i : Nat) {cols k : Nat} (L : List (Tri × List ℝ)) (hL : ∀ p ∈ L, p.2.length = cols) {acc : List ℝ}
    {x : ℝ} (hacc : RowAt cols k acc x) :
    RowAt cols k (L.foldl (t2vStep i) acc) (x + (L.map fun p => corner p.1 i * p.2.getD k 0).sum) := by
  refine RowAt.foldl L (fun acc z p hp hz => ?_) hacc
  have hr : RowAt cols k p.2 (p.2.getD k 0) := RowAt.of_length (hL p hp)
  rw [corner_mul, ← add_assoc, ← add_assoc]
  exact ((hz.condAdd (p.1.1 = i) hr).condAdd (p.1.2.1 = i) hr).condAdd (p.1.2.2 = i) hr

/-- the scalar weighted values -/
noncomputable def wvals (vtx : Nat → V3 ℝ) (ts : List Tri) (g : List ℝ) (weighted : Bool) : List ℝ :=
  (g.zip (Measures.triAreas vtx ts)).map fun p => if weighted then p.1 * p.2 else p.1

/-- single-column `map_tfunc_to_vfunc` -/
noncomputable def t2vScalar (nv : Nat) (vtx : Nat → V3 ℝ) (ts : List Tri) (g : List ℝ) (weighted : Bool) : List ℝ :=
  (List.range nv).map fun i => ((ts.zip (wvals vtx ts g weighted)).map fun p => corner p.1 i * p.2).sum / 3

theorem wrows_rect {cols : Nat} {tf : List (List ℝ)} (h : Rect cols tf) (vtx : Nat → V3 ℝ) (ts : List Tri) (w : Bool) :
    Rect cols (wrows vtx ts tf w) := by
  intro r hr
  unfold wrows at hr
  rw [List.mem_map] at hr
  obtain ⟨p, hp, rfl⟩ := hr
  have := h p.1 (List.of_mem_zip hp).1
  split <;> simp [this]

theorem col_wrows (k : Nat) (vtx : Nat → V3 ℝ) (ts : List Tri) (tf : List (List ℝ)) (w : Bool) :
    col k (wrows vtx ts tf w) = wvals vtx ts (col k tf) w := by
  unfold col wrows wvals
  rw [List.zip_map_left, List.map_map, List.map_map]
  apply List.map_congr_left
  intro p _
  cases w
  · rfl
  · show (p.1.map (· * p.2)).getD k 0 = p.1.getD k 0 * p.2
    exact getD_map (· * p.2) (zero_mul _) _ _

theorem col_t2v {cols : Nat} (nv : Nat) (vtx : Nat → V3 ℝ) (ts : List Tri) {tf : List (List ℝ)} (h : Rect cols tf)
    (w : Bool) (k : Nat) : col k (t2v nv vtx ts tf w) = t2vScalar nv vtx ts (col k tf) w := by
  have hrect := wrows_rect h.headD vtx ts w
  rw [t2v_eq, t2vScalar, col, List.map_map]
  refine List.map_congr_left fun i _ => ?_
  -- entry `k` of the accumulated row (`t2v_fold`); on the right the scalar weighted values are column `k` of the
  -- weighted rows (`col_wrows`), and the `map` that takes the column moves out of the `zip`
  rw [Function.comp_apply, getD_rowDiv, (t2v_fold i _ (fun p hp => hrect p.2 (List.of_mem_zip hp).2) (RowAt.zero _ k)).2,
    zero_add, ← col_wrows, col, List.zip_map_right, List.map_map]
  -- the divisor `((3 : Nat) : ℝ)` of the model against `3`
  push_cast
  rfl

theorem v2t_eq (ts : List Tri) (vf : List (List ℝ)) :
    v2t ts vf = ts.map fun τ =>
      rowAdd (rowAdd (rowDiv (vf.getD τ.1 []) ((3 : Nat) : ℝ)) (rowDiv (vf.getD τ.2.1 []) ((3 : Nat) : ℝ)))
        (rowDiv (vf.getD τ.2.2 []) ((3 : Nat) : ℝ)) := by
  unfold v2t
  simp only [getD_map (fun r => rowDiv r ((3 : Nat) : ℝ)) (d := []) (d' := []) rfl vf]

theorem getD_col (k : Nat) (f : List (List ℝ)) (j : Nat) : (col k f).getD j 0 = (f.getD j []).getD k 0 :=
  getD_map (fun r : List ℝ => r.getD k 0) (d := []) rfl f j

theorem Rect.getD {cols : Nat} {f : List (List ℝ)} (h : Rect cols f) {j : Nat} (hj : j < f.length) :
    (f.getD j []).length = cols := by
  rw [List.getD_eq_getElem?_getD, List.getElem?_eq_getElem hj]
  exact h _ (List.getElem_mem hj)

/-- the weight the code gives to every neighbour of `i`: `(1·a_i) · (1 / Σ_nb 1·a_i)` -/
noncomputable def wgt (sk : List (Nat × Nat)) (va : List ℝ) (i : Nat) : ℝ :=
  (((1 : Nat) : ℝ) * va.getD i 0) * (((1 : Nat) : ℝ) / ((rowNbrs sk i).map fun _ => ((1 : Nat) : ℝ) * va.getD i 0).sum)

theorem smooth1_eq (sk : List (Nat × Nat)) (va : List ℝ) (f : List (List ℝ)) :
    smooth1 sk va f = (List.range f.length).map fun i =>
      (rowNbrs sk i).foldl (fun acc j => rowAdd acc (rowScale (wgt sk va i) (f.getD j []))) (rowZero (f.headD []).length) :=
  rfl

theorem smooth_fold {cols k : Nat} (w : ℝ) (f : List (List ℝ)) (nb : List Nat)
    (hnb : ∀ j ∈ nb, (f.getD j []).length = cols) {acc : List ℝ} {x : ℝ} (hacc : RowAt cols k acc x) :
    RowAt cols k (nb.foldl (fun acc j => rowAdd acc (rowScale w (f.getD j []))) acc)
      (x + (nb.map fun j => w * (f.getD j []).getD k 0).sum) :=
  RowAt.foldl nb (fun _ _ j hj hz => hz.add ((RowAt.of_length (hnb j hj)).scale w)) hacc

/-- single-column `smooth1` -/
noncomputable def smooth1S (sk : List (Nat × Nat)) (va : List ℝ) (g : List ℝ) : List ℝ :=
  (List.range g.length).map fun i => ((rowNbrs sk i).map fun j => wgt sk va i * g.getD j 0).sum

/-- single-column `smooth` -/
noncomputable def smoothS (sk : List (Nat × Nat)) (va : List ℝ) (g : List ℝ) (n : Nat) : List ℝ :=
  (List.range (n - 1)).foldl (fun acc _ => smooth1S sk va acc) (smooth1S sk va g)

def NbrsInRange (sk : List (Nat × Nat)) (n : Nat) : Prop := ∀ i j, j ∈ rowNbrs sk i → j < n

theorem mem_rowNbrs (sk : List (Nat × Nat)) (i j : Nat) : j ∈ rowNbrs sk i ↔ (i, j) ∈ sk := by
  simp [rowNbrs]

theorem smooth1_length (sk : List (Nat × Nat)) (va : List ℝ) (f : List (List ℝ)) :
    (smooth1 sk va f).length = f.length := by
  rw [smooth1_eq, List.length_map, List.length_range]

theorem smooth1S_length (sk : List (Nat × Nat)) (va : List ℝ) (g : List ℝ) :
    (smooth1S sk va g).length = g.length := by
  rw [smooth1S, List.length_map, List.length_range]

theorem smooth1_spec {cols : Nat} {sk : List (Nat × Nat)} (va : List ℝ) {f : List (List ℝ)} (hrect : Rect cols f)
    (hin : NbrsInRange sk f.length) (k : Nat) :
    Rect cols (smooth1 sk va f) ∧ col k (smooth1 sk va f) = smooth1S sk va (col k f) := by
  by_cases hne : f = []
  · subst hne
    exact ⟨fun r hr => (nomatch hr), rfl⟩
  have key := fun i => smooth_fold (wgt sk va i) f (rowNbrs sk i) (fun j hj => hrect.getD (hin i j hj))
    (RowAt.zero cols k)
  rw [smooth1_eq, hrect.head hne]
  constructor
  · intro r hr
    obtain ⟨i, _, rfl⟩ := List.mem_map.1 hr
    exact (key i).1
  · rw [col, List.map_map, smooth1S, col_length]
    refine List.map_congr_left fun i _ => ?_
    rw [Function.comp_apply, (key i).2, zero_add]
    simp only [getD_col]

theorem smooth_spec {cols : Nat} {sk : List (Nat × Nat)} (va : List ℝ) {f : List (List ℝ)} (hrect : Rect cols f)
    (hin : NbrsInRange sk f.length) (k n : Nat) : col k (smooth sk va f n) = smoothS sk va (col k f) n := by
  have h0 := smooth1_spec va hrect hin k
  -- carried through the iteration: the rows stay rectangular and as many as in `f`
  refine (List.foldl_rel (r := fun F G => Rect cols F ∧ F.length = f.length ∧ col k F = G)
    ⟨h0.1, smooth1_length _ _ _, h0.2⟩ ?_).2.2
  rintro _ _ F G ⟨h1, h2, h3⟩
  have hs := smooth1_spec va h1 (h2 ▸ hin) k
  exact ⟨hs.1, (smooth1_length _ _ _).trans h2, hs.2.trans (congrArg _ h3)⟩

end TransferLemmas
end LapyVerif
