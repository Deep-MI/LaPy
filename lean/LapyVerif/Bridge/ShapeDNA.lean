import LapyVerif.Props.C04b
import LapyVerif.Generated.ShapeDNA
/-
  Bridge: `normalize_ev` and `compute_shapedna` (lapy/shapedna.py) traced as protocols (geometry classes and Solver are recorders; the
  real power `x ** (2/3)` is the binder `pw`, instantiated with `Real.rpow`):
  * `normalize_ev` multiplies by `area` (surface; geometry of a triangle mesh) resp. `vol^(2/3)` (volume; geometry of a tetra mesh) — the model's
    `Spectral.normalizeEv`; the volume is that of an oriented COPY of a triangle mesh (the argument is never oriented), resp. of the oriented
    boundary surface of a tetra mesh;
  * `compute_shapedna` builds `Solver(geom, lump, aniso, aniso_smooth, use_cholmod)`, calls `eigs(k)`, passes its outputs on unchanged and
    reports `Refine = 0, Degree = 1, Dimension = 2 | 3, Elements = |t|, DoF = |v|, NumEW = k` — the model's `Spectral.dictFields`.
-/
-- the closing `ring` runs only on entries that the traced code computes in another, algebraically equal form
set_option linter.unreachableTactic false
set_option linter.unusedTactic false
namespace LapyVerif.Bridge

theorem sdna_normalize (l0 l1 l2 ar vol : ℝ) :
    Spectral.normalizeEv .surface false [l0, l1, l2] ar vol = Gen.ShapeDNA.normTriSurface Real.rpow l0 l1 l2 ar vol ∧
    Spectral.normalizeEv .volume false [l0, l1, l2] ar vol = Gen.ShapeDNA.normTriVolume Real.rpow l0 l1 l2 ar vol ∧
    Spectral.normalizeEv .geometry false [l0, l1, l2] ar vol = Gen.ShapeDNA.normTriGeometry Real.rpow l0 l1 l2 ar vol ∧
    Spectral.normalizeEv .volume true [l0, l1, l2] ar vol = Gen.ShapeDNA.normTetVolume Real.rpow l0 l1 l2 ar vol ∧
    Spectral.normalizeEv .geometry true [l0, l1, l2] ar vol = Gen.ShapeDNA.normTetGeometry Real.rpow l0 l1 l2 ar vol := by
  refine ⟨?_, ?_, ?_, ?_, ?_⟩ <;>
    simp only [Nat.cast_ofNat, Spectral.normalizeEv, Spectral.pow23, HasRpow.rpow, List.map_cons, List.map_nil,
      Bool.false_eq_true, if_false, if_true, Gen.ShapeDNA.normTriSurface, Gen.ShapeDNA.normTriVolume,
      Gen.ShapeDNA.normTriGeometry, Gen.ShapeDNA.normTetVolume, Gen.ShapeDNA.normTetGeometry,
      Gen.ShapeDNA.normTriSurface_0, Gen.ShapeDNA.normTriSurface_1, Gen.ShapeDNA.normTriSurface_2,
      Gen.ShapeDNA.normTriVolume_0, Gen.ShapeDNA.normTriVolume_1, Gen.ShapeDNA.normTriVolume_2,
      Gen.ShapeDNA.normTriGeometry_0, Gen.ShapeDNA.normTriGeometry_1, Gen.ShapeDNA.normTriGeometry_2,
      Gen.ShapeDNA.normTetVolume_0, Gen.ShapeDNA.normTetVolume_1, Gen.ShapeDNA.normTetVolume_2,
      Gen.ShapeDNA.normTetGeometry_0, Gen.ShapeDNA.normTetGeometry_1, Gen.ShapeDNA.normTetGeometry_2] <;>
    ring

theorem sdna_facts : Gen.ShapeDNA.facts =
    [("normalize_ev TriaMesh surface", "area of the argument"),
     ("normalize_ev TriaMesh volume", "orient_ on a copy built from (v, t) > volume of a copy built from (v, t)"),
     ("normalize_ev TriaMesh geometry", "area of the argument"),
     ("normalize_ev TetMesh volume", "boundary_tria of the argument > orient_ on boundary_tria() > volume of boundary_tria()"),
     ("normalize_ev TetMesh geometry", "boundary_tria of the argument > orient_ on boundary_tria() > volume of boundary_tria()"),
     ("compute_shapedna TriaMesh fields", "Refine=0, Degree=1, Dimension=2, Elements=7, DoF=5, NumEW=6"),
     ("compute_shapedna TriaMesh keys", "Degree Dimension DoF Eigenvalues Eigenvectors Elements NumEW Refine"),
     ("compute_shapedna TriaMesh solver", "Solver(geom, aniso=(1.0, 2.0), aniso_smooth=4, lump=True, use_cholmod=False) eigs(k=6) outputs passed on: True"),
     ("compute_shapedna TetMesh fields", "Refine=0, Degree=1, Dimension=3, Elements=7, DoF=5, NumEW=6"),
     ("compute_shapedna TetMesh keys", "Degree Dimension DoF Eigenvalues Eigenvectors Elements NumEW Refine"),
     ("compute_shapedna TetMesh solver", "Solver(geom, aniso=(1.0, 2.0), aniso_smooth=4, lump=True, use_cholmod=False) eigs(k=6) outputs passed on: True")] :=
  rfl

/-- the integer fields are the model's `dictFields` for 7 elements, 5 vertices, k = 6 -/
theorem sdna_fields :
    Spectral.dictFields false 7 5 6 = [("Refine", 0), ("Degree", 1), ("Dimension", 2), ("Elements", 7), ("DoF", 5), ("NumEW", 6)] ∧
    Spectral.dictFields true 7 5 6 = [("Refine", 0), ("Degree", 1), ("Dimension", 3), ("Elements", 7), ("DoF", 5), ("NumEW", 6)] :=
  ⟨rfl, rfl⟩

/-! ### census: how many data-dependent decisions the tracer recorded (a branch added to the source changes the number) -/
theorem census_ShapeDNA_pcCount : Gen.ShapeDNA.pcCount = 0 := rfl

end LapyVerif.Bridge
