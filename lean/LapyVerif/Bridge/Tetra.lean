import LapyVerif.Model.Mesh
/-
  The sample surface of the triangle-mesh bridges: the boundary of a tetrahedron on the vertices 0 … 3 (positions `vtx4 v0 v1 v2 v3`),
  closed and oriented (`T4_closed`, `T4_oriented` in `Bridge/Measures.lean`).  It stands in a module of its own so that a bridge that
  only needs the sample does not depend on the traced measure routines.
-/
namespace LapyVerif.Bridge

def T4 : List Tri := [(0, 1, 2), (0, 3, 1), (0, 2, 3), (1, 3, 2)]

end LapyVerif.Bridge
