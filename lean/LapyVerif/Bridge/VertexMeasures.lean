import LapyVerif.Bridge.Measures
import LapyVerif.Model.Transfer
import LapyVerif.Generated.VertexMeasures
import LapyVerif.Generated.TransferTri
/-
  Bridge: `vertex_areas`, `avg_edge_length`, `vertex_normals`, `normal_offset_`, `map_tfunc_to_vfunc` (plain and
  area-weighted, one and two columns) and `map_vfunc_to_tfunc` of `lapy/tria_mesh.py`, traced on the boundary of a generic
  tetrahedron (every vertex has three incident triangles, so the scatter-add really accumulates), are the model's.
  Normals and offsets are bridged at vertex 0 (the code's accumulation order is the model's) and at vertex 3 (another order: `acc3`); of
  the four recorded length decisions (one per vertex) these use the first and the last.
-/
set_option linter.unusedTactic false
-- the closing `ring` runs only on entries that the traced code computes in another, algebraically equal form
set_option linter.unreachableTactic false
namespace LapyVerif.Bridge

/-- the length `Measures.vertexAreas` computes inline (largest index + 1), on the sample -/
theorem T4_nmax : (T4.foldl (fun m τ => max m (max τ.1 (max τ.2.1 τ.2.2) + 1)) 0) = 4 := by decide

/-- **`vertex_areas`** -/
theorem vm_vareas (v0 v1 v2 v3 : V3 ℝ) (d : ℝ) :
    Measures.vertexAreas (vtx4 v0 v1 v2 v3) T4 = Gen.VertexMeasures.vareas v0 v1 v2 v3 d := by
  simp only [Measures.vertexAreas, T4_nmax]
  simp only [T4, List.range, List.range.loop, List.map_cons, List.map_nil, vtx4_0, vtx4_1, vtx4_2, vtx4_3,
    Measures.crossArea, Measures.c, Gen.VertexMeasures.vareas, List.sum_cons, List.sum_nil, ↓reduceIte, Nat.reduceEqDiff,
    List.cons.injEq, and_true]
  and_intros <;>
    v3_flat [Gen.VertexMeasures.vareas_0, Gen.VertexMeasures.vareas_1, Gen.VertexMeasures.vareas_2,
      Gen.VertexMeasures.vareas_3] <;>
    ring

theorem T4_edges : Measures.undirectedEdges (Topo.symKeys T4) = [(0, 1), (1, 2), (0, 2), (0, 3), (1, 3), (2, 3)] := by
  decide

/-- **`avg_edge_length`** -/
theorem vm_avg (v0 v1 v2 v3 : V3 ℝ) (d : ℝ) :
    Measures.avgEdgeLength (vtx4 v0 v1 v2 v3) T4 = Gen.VertexMeasures.avg v0 v1 v2 v3 d := by
  v3_flat [Measures.avgEdgeLength, T4_edges, List.map_cons, List.map_nil, meanL, List.sum_cons, List.sum_nil,
    List.length_cons, List.length_nil, vtx4_0, vtx4_1, vtx4_2, vtx4_3, Gen.VertexMeasures.avg]
  ring

/-- accumulated corner normals at vertex 0, in the order `np.add.at` adds them -/
theorem acc0 (v0 v1 v2 v3 : V3 ℝ) :
    Measures.vertexNormalAcc (vtx4 v0 v1 v2 v3) T4 0 =
      (⟨0, 0, 0⟩ : V3 ℝ) + V3.cross (v1 - v0) (-(v0 - v2)) + V3.cross (v3 - v0) (-(v0 - v1)) + V3.cross (v2 - v0) (-(v0 - v3)) := by
  simp only [Measures.vertexNormalAcc, T4, List.foldl, vtx4_0, vtx4_1, vtx4_2, vtx4_3, ↓reduceIte, Nat.reduceEqDiff]

/-- at vertex 3 the code adds column by column (`t[:,1]` of triangles 1 and 3, then `t[:,2]` of triangle 2), the model
    triangle by triangle: the same sum in another order -/
theorem acc3 (v0 v1 v2 v3 : V3 ℝ) :
    Measures.vertexNormalAcc (vtx4 v0 v1 v2 v3) T4 3 =
      (⟨0, 0, 0⟩ : V3 ℝ) + V3.cross (v1 - v3) (-(v3 - v0)) + V3.cross (v2 - v3) (-(v3 - v1)) + V3.cross (v0 - v3) (-(v3 - v2)) := by
  simp only [Measures.vertexNormalAcc, T4, List.foldl, vtx4_0, vtx4_1, vtx4_2, vtx4_3, ↓reduceIte, Nat.reduceEqDiff]
  ext <;> (v3_flat; ring)

theorem vm_vnormal0_nd (v0 v1 v2 v3 : V3 ℝ) (d : ℝ) (h : Gen.VertexMeasures.pc v0 v1 v2 v3 d) :
    ¬ (Real.sqrt (V3.normSq (Measures.vertexNormalAcc (vtx4 v0 v1 v2 v3) T4 0)) < epsK) := by
  rw [epsK_real, acc0]
  have := h.1
  simpa [Gen.VertexMeasures.pc, V3.normSq, V3.dot] using this

theorem vm_vnormal3_nd (v0 v1 v2 v3 : V3 ℝ) (d : ℝ) (h : Gen.VertexMeasures.pc v0 v1 v2 v3 d) :
    ¬ (Real.sqrt (V3.normSq (Measures.vertexNormalAcc (vtx4 v0 v1 v2 v3) T4 3)) < epsK) := by
  rw [epsK_real, acc3]
  have := h.2.2.2
  simpa [Gen.VertexMeasures.pc, V3.normSq, V3.dot] using this

/-- **`vertex_normals`**, vertex 0 -/
theorem vm_vnormal0 (v0 v1 v2 v3 : V3 ℝ) (d : ℝ) (h : Gen.VertexMeasures.pc v0 v1 v2 v3 d) :
    (Measures.vertexNormals 4 (vtx4 v0 v1 v2 v3) T4).map (fun ns => let n := ns.getD 0 ⟨0, 0, 0⟩; [n.x, n.y, n.z])
      = some (Gen.VertexMeasures.vnormal0 v0 v1 v2 v3 d) := by
  have h' := vm_vnormal0_nd v0 v1 v2 v3 d h
  simp only [Measures.vertexNormals, T4_oriented, Bool.not_true, Bool.false_eq_true, if_false, Option.map_some, List.range,
    List.range.loop, List.map_cons, List.getD_cons_zero, Measures.guard1, sqrt_real, if_neg h']
  simp only [acc0, Gen.VertexMeasures.vnormal0, Option.some.injEq]
  v3_flat [Gen.VertexMeasures.vnormal0_0, Gen.VertexMeasures.vnormal0_1, Gen.VertexMeasures.vnormal0_2] <;>
    coo_entries <;> ring

/-- **`vertex_normals`**, vertex 3 (accumulation order of the code differs from the model's) -/
theorem vm_vnormal3 (v0 v1 v2 v3 : V3 ℝ) (d : ℝ) (h : Gen.VertexMeasures.pc v0 v1 v2 v3 d) :
    (Measures.vertexNormals 4 (vtx4 v0 v1 v2 v3) T4).map (fun ns => let n := ns.getD 3 ⟨0, 0, 0⟩; [n.x, n.y, n.z])
      = some (Gen.VertexMeasures.vnormal3 v0 v1 v2 v3 d) := by
  have h' := vm_vnormal3_nd v0 v1 v2 v3 d h
  simp only [Measures.vertexNormals, T4_oriented, Bool.not_true, Bool.false_eq_true, if_false, Option.map_some, List.range,
    List.range.loop, List.map_cons, List.getD_cons_zero, List.getD_cons_succ, Measures.guard1, sqrt_real, if_neg h']
  simp only [acc3, Gen.VertexMeasures.vnormal3, Option.some.injEq]
  v3_flat [Gen.VertexMeasures.vnormal3_0, Gen.VertexMeasures.vnormal3_1, Gen.VertexMeasures.vnormal3_2] <;>
    coo_entries <;> ring

/-- **`normal_offset_(d)`**, vertex 0: `v + d * n` -/
theorem vm_offset0 (v0 v1 v2 v3 : V3 ℝ) (d : ℝ) (h : Gen.VertexMeasures.pc v0 v1 v2 v3 d) :
    (Measures.normalOffset d [v0, v1, v2, v3] (vtx4 v0 v1 v2 v3) T4).map
        (fun ps => let p := ps.getD 0 ⟨0, 0, 0⟩; [p.x, p.y, p.z])
      = some (Gen.VertexMeasures.offset0 v0 v1 v2 v3 d) := by
  have h' := vm_vnormal0_nd v0 v1 v2 v3 d h
  simp only [Measures.normalOffset, Measures.vertexNormals, T4_oriented, Bool.not_true, Bool.false_eq_true, if_false,
    List.length_cons, List.length_nil, Option.map_some, List.range, List.range.loop, List.map_cons, List.zip_cons_cons,
    List.getD_cons_zero, Measures.guard1, sqrt_real, if_neg h']
  simp only [acc0, Gen.VertexMeasures.offset0, Option.some.injEq]
  v3_flat [Gen.VertexMeasures.offset0_0, Gen.VertexMeasures.offset0_1, Gen.VertexMeasures.offset0_2] <;>
    coo_entries <;> ring

/-- **`map_tfunc_to_vfunc(tfunc)`**, two columns: scatter-add to the three corners, `/ 3` -/
theorem tr_t2v (v0 v1 v2 v3 : V3 ℝ) (f00 f01 f10 f11 f20 f21 f30 f31 : ℝ) :
    (Transfer.t2v 4 (vtx4 v0 v1 v2 v3) T4 [[f00, f01], [f10, f11], [f20, f21], [f30, f31]] false).flatten
      = Gen.TransferTri.t2v v0 v1 v2 v3 f00 f01 f10 f11 f20 f21 f30 f31 := by
  simp only [Transfer.t2v, T4, Measures.triAreas, List.map_cons, List.map_nil, List.zip_cons_cons, List.zip_nil_right,
    List.headD_cons, List.length_cons, List.length_nil, List.range, List.range.loop, List.foldl, Transfer.rowZero,
    Transfer.rowAdd, Transfer.rowDiv, List.replicate, Bool.false_eq_true, ↓reduceIte, Nat.reduceEqDiff,
    List.zipWith_cons_cons, List.zipWith_nil_right, List.flatten_cons, List.flatten_nil, List.cons_append, List.nil_append,
    Nat.cast_ofNat, Gen.TransferTri.t2v, Gen.TransferTri.t2v_0, Gen.TransferTri.t2v_1, Gen.TransferTri.t2v_2,
    Gen.TransferTri.t2v_3, Gen.TransferTri.t2v_4, Gen.TransferTri.t2v_5, Gen.TransferTri.t2v_6, Gen.TransferTri.t2v_7]
  coo_entries <;> ring

/-- one-column input (`tfunc.ndim == 1` → `[:, newaxis]`, squeezed on return) -/
theorem tr_t2v1 (v0 v1 v2 v3 : V3 ℝ) (f00 f01 f10 f11 f20 f21 f30 f31 : ℝ) :
    (Transfer.t2v 4 (vtx4 v0 v1 v2 v3) T4 [[f00], [f10], [f20], [f30]] false).flatten
      = Gen.TransferTri.t2v1 v0 v1 v2 v3 f00 f01 f10 f11 f20 f21 f30 f31 := by
  simp only [Transfer.t2v, T4, Measures.triAreas, List.map_cons, List.map_nil, List.zip_cons_cons, List.zip_nil_right,
    List.headD_cons, List.length_cons, List.length_nil, List.range, List.range.loop, List.foldl, Transfer.rowZero,
    Transfer.rowAdd, Transfer.rowDiv, List.replicate, Bool.false_eq_true, ↓reduceIte, Nat.reduceEqDiff,
    List.zipWith_cons_cons, List.zipWith_nil_right, List.flatten_cons, List.flatten_nil, List.cons_append, List.nil_append,
    Nat.cast_ofNat, Gen.TransferTri.t2v1, Gen.TransferTri.t2v1_0, Gen.TransferTri.t2v1_1, Gen.TransferTri.t2v1_2,
    Gen.TransferTri.t2v1_3]
  coo_entries <;> ring

/-- **`map_vfunc_to_tfunc`**, two columns: `sum((vfunc/3)[t], axis=1)` -/
theorem tr_v2t (v0 v1 v2 v3 : V3 ℝ) (f00 f01 f10 f11 f20 f21 f30 f31 : ℝ) :
    (Transfer.v2t T4 [[f00, f01], [f10, f11], [f20, f21], [f30, f31]]).flatten
      = Gen.TransferTri.v2t v0 v1 v2 v3 f00 f01 f10 f11 f20 f21 f30 f31 := by
  simp only [Transfer.v2t, T4, List.map_cons, List.map_nil, List.getD_cons_zero, List.getD_cons_succ, Transfer.rowAdd,
    Transfer.rowDiv, List.zipWith_cons_cons, List.zipWith_nil_right, List.flatten_cons, List.flatten_nil,
    List.cons_append, List.nil_append, Gen.TransferTri.v2t]
  coo_entries <;>
    simp only [Nat.cast_ofNat, Gen.TransferTri.v2t_0, Gen.TransferTri.v2t_1, Gen.TransferTri.v2t_2, Gen.TransferTri.v2t_3,
      Gen.TransferTri.v2t_4, Gen.TransferTri.v2t_5, Gen.TransferTri.v2t_6, Gen.TransferTri.v2t_7] <;>
    ring

/-- **`map_tfunc_to_vfunc(tfunc, weighted=True)`**: rows multiplied by the Heron areas of `tria_areas()` first -/
theorem tr_t2vw (v0 v1 v2 v3 : V3 ℝ) (f00 f01 f10 f11 f20 f21 f30 f31 : ℝ) :
    (Transfer.t2v 4 (vtx4 v0 v1 v2 v3) T4 [[f00, f01], [f10, f11], [f20, f21], [f30, f31]] true).flatten
      = Gen.TransferTri.t2vw v0 v1 v2 v3 f00 f01 f10 f11 f20 f21 f30 f31 := by
  simp only [Transfer.t2v, meas_areas, Gen.Measures.areas]
  simp only [T4, List.map_cons, List.map_nil, List.zip_cons_cons, List.zip_nil_right,
    List.headD_cons, List.length_cons, List.length_nil, List.range, List.range.loop, List.foldl, Transfer.rowZero,
    Transfer.rowAdd, Transfer.rowDiv, List.replicate, ↓reduceIte, Nat.reduceEqDiff, List.zipWith_cons_cons,
    List.zipWith_nil_right, List.flatten_cons, List.flatten_nil, List.cons_append, List.nil_append, Nat.cast_ofNat,
    Gen.TransferTri.t2vw, Gen.TransferTri.t2vw_0, Gen.TransferTri.t2vw_1, Gen.TransferTri.t2vw_2, Gen.TransferTri.t2vw_3,
    Gen.TransferTri.t2vw_4, Gen.TransferTri.t2vw_5, Gen.TransferTri.t2vw_6, Gen.TransferTri.t2vw_7,
    Gen.Measures.areas_0, Gen.Measures.areas_1, Gen.Measures.areas_2, Gen.Measures.areas_3]
  coo_entries <;> ring

/-! ### census: how many data-dependent decisions the tracer recorded (a branch added to the source changes the number) -/
theorem census_VertexMeasures_pcCount : Gen.VertexMeasures.pcCount = 4 := rfl
theorem census_TransferTri_pcCount : Gen.TransferTri.pcCount = 0 := rfl

end LapyVerif.Bridge
