import LapyVerif.Lemmas.Count
import LapyVerif.Model.Level
/-
  Breadth-first distances of `level_path` on a segment graph that is a simple path `q0 — q1 — … — qm`:
  the distance of `q_j` from `q_0` is `j`, hence the argsort of the distances lists the nodes in path order.
-/
namespace LapyVerif
namespace LevelBfs
open Level

/-- the neighbour list used by `bfs` -/
def nbrOf (es : List (Nat × Nat)) (i : Nat) : List Nat :=
  es.filterMap fun e => if e.1 == i then some e.2 else if e.2 == i then some e.1 else none

theorem bfs_eq (n : Nat) (es : List (Nat × Nat)) (start : Nat) :
    bfs n es start = bfs.go (nbrOf es) n [start] 0 ((List.range n).map fun j => if j == start then some 0 else none) := rfl

theorem bfsGo_zero (nbr : Nat → List Nat) (fr : List Nat) (d : Nat) (dist : List (Option Nat)) :
    bfs.go nbr 0 fr d dist = dist := rfl

theorem bfsGo_succ (nbr : Nat → List Nat) (fuel : Nat) (fr : List Nat) (d : Nat) (dist : List (Option Nat)) :
    bfs.go nbr (fuel + 1) fr d dist =
      if fr.isEmpty then dist
      else bfs.go nbr fuel (((fr.flatMap nbr).eraseDups).filter fun j => (dist.getD j none).isNone) (d + 1)
        (dist.zipIdx.map fun p => if (((fr.flatMap nbr).eraseDups).filter fun j => (dist.getD j none).isNone).contains p.2
          then some (d + 1) else p.1) := rfl

theorem mem_nbrOf {es : List (Nat × Nat)} {i x : Nat} :
    x ∈ nbrOf es i ↔ ∃ e ∈ es, (e.1 = i ∧ x = e.2) ∨ (e.2 = i ∧ x = e.1) := by
  unfold nbrOf
  rw [List.mem_filterMap]
  refine exists_congr fun e => and_congr_right fun _ => ?_
  by_cases h1 : e.1 = i <;> by_cases h2 : e.2 = i <;> simp [h1, h2, @eq_comm _ x]

/-- the segment graph is the simple path listed by `q` (all `n` nodes, each once; the neighbours of `q[j]` are
    `q[j+1]` and `q[j-1]`) -/
structure IsPath (n : Nat) (es : List (Nat × Nat)) (q : List Nat) : Prop where
  nodup : q.Nodup
  mem : ∀ i, i ∈ q ↔ i < n
  adj : ∀ j (hj : j < q.length) x, x ∈ nbrOf es q[j] ↔
    (∃ h : j + 1 < q.length, x = q[j + 1]) ∨ (∃ _ : 0 < j, x = q[j - 1])

theorem IsPath.perm {n : Nat} {es : List (Nat × Nat)} {q : List Nat} (h : IsPath n es q) : q.Perm (List.range n) :=
  (List.perm_ext_iff_of_nodup h.nodup List.nodup_range).2 fun i => by rw [h.mem, List.mem_range]

theorem IsPath.length {n : Nat} {es : List (Nat × Nat)} {q : List Nat} (h : IsPath n es q) : q.length = n := by
  simpa using h.perm.length_eq

/-- distances known after `d` rounds -/
def distAt (n : Nat) (q : List Nat) (d : Nat) : List (Option Nat) :=
  (List.range n).map fun i => if q.idxOf i ≤ d then some (q.idxOf i) else none

theorem getD_distAt (n : Nat) (q : List Nat) (d i : Nat) (hi : i < n) :
    (distAt n q d).getD i none = if q.idxOf i ≤ d then some (q.idxOf i) else none :=
  List.getD_map_range _ _ _ hi

theorem zipIdx_map_range {α β : Type} (n : Nat) (g : Nat → α) (F : α × Nat → β) :
    (((List.range n).map g).zipIdx).map F = (List.range n).map fun j => F (g j, j) := by
  apply List.ext_getElem
  · simp
  · intro i h1 h2
    simp

theorem eq_toList_of_mem_iff {l : List Nat} (hnd : l.Nodup) {o : Option Nat} (h : ∀ x, x ∈ l ↔ o = some x) :
    l = o.toList := by
  cases o with
  | none => exact List.eq_nil_iff_forall_not_mem.2 fun x hx => nomatch (h x).1 hx
  | some a =>
    refine List.perm_singleton.1 ((List.perm_ext_iff_of_nodup hnd (List.nodup_singleton a)).2 fun x => ?_)
    rw [h, List.mem_singleton, Option.some.injEq, eq_comm]

theorem IsPath.getElem?_eq_some_iff {n : Nat} {es : List (Nat × Nat)} {q : List Nat} (h : IsPath n es q) {i : Nat}
    (hi : i < n) (k : Nat) : q[k]? = some i ↔ q.idxOf i = k := by
  rw [List.getElem?_eq_some_iff]
  constructor
  · rintro ⟨hk, rfl⟩
    exact h.nodup.idxOf_getElem k hk
  · rintro rfl
    have hlt := List.idxOf_lt_length_iff.2 ((h.mem i).2 hi)
    exact ⟨hlt, List.getElem_idxOf hlt⟩

/-- the frontier after round `d`: of the two neighbours of `q[d]` only `q[d+1]` (if there is one) is still unvisited -/
theorem next_eq {n : Nat} {es : List (Nat × Nat)} {q : List Nat} (h : IsPath n es q) (d : Nat) (hd : d < q.length) :
    ((([q[d]].flatMap (nbrOf es)).eraseDups).filter fun j => ((distAt n q d).getD j none).isNone)
      = (q[d + 1]?).toList := by
  refine eq_toList_of_mem_iff ((List.nodup_eraseDups _).filter _) fun x => ?_
  rw [List.mem_filter, List.mem_eraseDups, List.flatMap_singleton, h.adj d hd x, List.getElem?_eq_some_iff]
  constructor
  · rintro ⟨⟨h', rfl⟩ | ⟨hpos, rfl⟩, hnone⟩
    · exact ⟨h', rfl⟩
    · have hlt : d - 1 < q.length := by omega
      rw [getD_distAt n q d _ ((h.mem _).1 (List.getElem_mem hlt)), h.nodup.idxOf_getElem (d - 1) hlt,
        if_pos (by omega)] at hnone
      cases hnone
  · rintro ⟨h', rfl⟩
    refine ⟨Or.inl ⟨h', rfl⟩, ?_⟩
    rw [getD_distAt n q d _ ((h.mem _).1 (List.getElem_mem h')), h.nodup.idxOf_getElem (d + 1) h', if_neg (by omega)]
    rfl

/-- … and the update of the distances with that frontier -/
theorem distAt_succ {n : Nat} {es : List (Nat × Nat)} {q : List Nat} (h : IsPath n es q) (d : Nat) :
    ((distAt n q d).zipIdx.map fun p => if (q[d + 1]?).toList.contains p.2 then some (d + 1) else p.1)
      = distAt n q (d + 1) := by
  unfold distAt
  rw [zipIdx_map_range]
  refine List.map_congr_left fun i hi => ?_
  have key : (q[d + 1]?).toList.contains i = true ↔ q.idxOf i = d + 1 := by
    rw [List.contains_iff_mem, Option.mem_toList]
    exact h.getElem?_eq_some_iff (List.mem_range.1 hi) (d + 1)
  by_cases he : q.idxOf i = d + 1
  · rw [if_pos (key.2 he), if_pos (Nat.le_of_eq he), he]
  · rw [if_neg (mt key.1 he)]
    exact if_congr (by omega) rfl rfl

theorem distAt_final {n : Nat} {es : List (Nat × Nat)} {q : List Nat} (h : IsPath n es q) (d : Nat) (hd : q.length ≤ d + 1) :
    distAt n q d = (List.range n).map fun i => some (q.idxOf i) := by
  unfold distAt
  apply List.map_congr_left
  intro i hi
  have hin : i ∈ q := (h.mem i).2 (List.mem_range.1 hi)
  have := List.idxOf_lt_length_iff.2 hin
  rw [if_pos (by omega)]

/-- the loop invariant, run to the end: in round `d` the frontier is `q[d]` (empty past the end of `q`) and the
    distances of `q[0], …, q[d]` are known -/
theorem bfsGo_path {n : Nat} {es : List (Nat × Nat)} {q : List Nat} (h : IsPath n es q) :
    ∀ (fuel d : Nat), q.length ≤ fuel + d →
      bfs.go (nbrOf es) fuel (q[d]?).toList d (distAt n q d) = (List.range n).map fun i => some (q.idxOf i) := by
  intro fuel
  induction fuel with
  | zero =>
    intro d hf
    rw [bfsGo_zero]
    exact distAt_final h d (by omega)
  | succ fuel ih =>
    intro d hf
    rw [bfsGo_succ]
    by_cases hd : d < q.length
    · rw [List.getElem?_eq_getElem hd, Option.toList_some, if_neg (by simp), next_eq h d hd, distAt_succ h d]
      exact ih (d + 1) (by omega)
    · rw [List.getElem?_eq_none (Nat.le_of_not_lt hd), Option.toList_none, if_pos List.isEmpty_nil]
      exact distAt_final h d (by omega)

/-- **breadth-first distances on a simple path**: the distance of `q[j]` from `q[0]` is `j` -/
theorem bfs_path {n : Nat} {es : List (Nat × Nat)} {q : List Nat} (h : IsPath n es q) (hpos : 0 < q.length) :
    bfs n es q[0] = (List.range n).map fun i => some (q.idxOf i) := by
  have hinit : ((List.range n).map fun j => if j == q[0] then some 0 else none) = distAt n q 0 := by
    refine List.map_congr_left fun i hi => ?_
    have key := h.getElem?_eq_some_iff (List.mem_range.1 hi) 0
    rw [List.getElem?_eq_getElem hpos, Option.some.injEq, eq_comm] at key
    by_cases he : q.idxOf i = 0
    · rw [if_pos (beq_iff_eq.2 (key.2 he)), he]
      rfl
    · rw [if_neg (mt (fun hb => key.1 (beq_iff_eq.1 hb)) he), if_neg (by omega)]
  rw [bfs_eq, hinit]
  have := bfsGo_path h n 0 (by rw [h.length]; omega)
  rwa [List.getElem?_eq_getElem hpos] at this

theorem map_idxOf {q : List Nat} (hnd : q.Nodup) : q.map (fun i => (q.idxOf i, i)) = q.zipIdx.map fun p => (p.2, p.1) := by
  apply List.ext_getElem (by simp)
  intro j h1 _
  have hj : j < q.length := by simpa using h1
  simp only [List.getElem_map, List.getElem_zipIdx, hnd.idxOf_getElem j hj, Nat.zero_add]

theorem argsort_path {n : Nat} {es : List (Nat × Nat)} {q : List Nat} (h : IsPath n es q) :
    ((((List.range n).map fun i => (q.idxOf i, i)).mergeSort (fun a b => Topo.lexLe a b)).map (·.2)) = q := by
  rw [Topo.mergeSort_lexLe_eq ((h.perm.map _).symm.trans (List.Perm.of_eq (map_idxOf h.nodup))), List.map_map]
  · exact List.zipIdx_map_fst 0 q
  · -- the positions `0, 1, 2, …` come first in the pairs
    rw [List.pairwise_map, List.pairwise_iff_getElem]
    intro i j hi hj hij
    simp only [List.getElem_zipIdx, Topo.lexLe, Bool.or_eq_true, decide_eq_true_eq]
    left; omega

end LevelBfs
end LapyVerif
