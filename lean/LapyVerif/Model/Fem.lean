import LapyVerif.Model.Mesh
/-
  Model of `lapy/solver.py`: `_fem_tria`, `_fem_tria_aniso`, `fem_tria_mass`, `_fem_tetra`.
  Statement by statement; the vertex array is a function `vtx : Nat → V3 K`
  (the driver passes `fun i => arr.getD i ⟨0, 0, 0⟩`), the element array a list of index tuples.
-/
namespace LapyVerif
namespace Fem
open V3

variable {K : Type} [Zero K] [Add K] [Sub K] [Mul K] [Div K] [Neg K] [NatCast K] [HasSqrt K]
variable [LT K] [DecidableRel (α := K) (· < ·)] [BEq K]

/-- `vol[vol < eps] = vol_mean` for one entry -/
def clampLt (thr volMean vol : K) : K := if vol < thr then volMean else vol

/-! ### `_fem_tria` -/

/-- `cr = np.cross(v3mv2, v1mv3)` -/
def triCr (v1 v2 v3 : V3 K) : V3 K := cross (v3 - v2) (v1 - v3)
/-- `vol = 2 * np.sqrt(np.sum(cr * cr, axis=1))`  (4 × area) -/
def triVol (v1 v2 v3 : V3 K) : K := ((2 : Nat) : K) * sqrt (normSq (triCr v1 v2 v3))
def triA12 (v1 v2 v3 : V3 K) (vol : K) : K := dot (v3 - v2) (v1 - v3) / vol
def triA23 (v1 v2 v3 : V3 K) (vol : K) : K := dot (v1 - v3) (v2 - v1) / vol
def triA31 (v1 v2 v3 : V3 K) (vol : K) : K := dot (v2 - v1) (v3 - v2) / vol

/-- the nine triplets of one triangle, in the order of `np.column_stack((a12,a12,a23,a23,a31,a31,a11,a22,a33))` -/
def triBlock (τ : Tri) (o12 o23 o31 d1 d2 d3 : K) : Coo K :=
  let (t1, t2, t3) := τ
  [((t1, t2), o12), ((t2, t1), o12), ((t2, t3), o23), ((t3, t2), o23), ((t3, t1), o31), ((t1, t3), o31),
   ((t1, t1), d1), ((t2, t2), d2), ((t3, t3), d3)]

def triBlockA (τ : Tri) (a12 a23 a31 : K) : Coo K :=
  triBlock τ a12 a23 a31 (-a12 - a31) (-a12 - a23) (-a31 - a23)

/-- lumped block: three diagonal triplets -/
def triBlockL (τ : Tri) (b : K) : Coo K :=
  let (t1, t2, t3) := τ
  [((t1, t1), b), ((t2, t2), b), ((t3, t3), b)]

/-- clamped `vol` array of `_fem_tria` (threshold `sys.float_info.epsilon`, replacement `0.0001*mean`) -/
def triVols (vtx : Nat → V3 K) (ts : List Tri) : List K :=
  let raw := ts.map fun τ => triVol (vtx τ.1) (vtx τ.2.1) (vtx τ.2.2)
  let vm := (((1 : Nat) : K) / ((10000 : Nat) : K)) * meanL raw
  raw.map (clampLt epsK vm)

def stiffTria (vtx : Nat → V3 K) (ts : List Tri) : Coo K :=
  List.flatten <| (ts.zip (triVols vtx ts)).map fun (τ, vol) =>
    let v1 := vtx τ.1; let v2 := vtx τ.2.1; let v3 := vtx τ.2.2
    triBlockA τ (triA12 v1 v2 v3 vol) (triA23 v1 v2 v3 vol) (triA31 v1 v2 v3 vol)

def massTria (lump : Bool) (vtx : Nat → V3 K) (ts : List Tri) : Coo K :=
  List.flatten <| (ts.zip (triVols vtx ts)).map fun (τ, vol) =>
    if lump then triBlockL τ (vol / ((12 : Nat) : K))
    else
      let bii := vol / ((24 : Nat) : K); let bij := vol / ((48 : Nat) : K)
      triBlock τ bij bij bij bii bii bii

/-! ### `fem_tria_mass` (stand-alone) -/

/-- `vol = 0.5 * np.sqrt(np.sum(cr * cr, axis=1))` (the area), replaced by `0.001*mean` where `== 0` -/
def triVolsMass (vtx : Nat → V3 K) (ts : List Tri) : List K :=
  let raw := ts.map fun τ => (((1 : Nat) : K) / ((2 : Nat) : K)) * sqrt (normSq (triCr (vtx τ.1) (vtx τ.2.1) (vtx τ.2.2)))
  let vm := (((1 : Nat) : K) / ((1000 : Nat) : K)) * meanL raw
  raw.map fun vol => if vol == 0 then vm else vol

def massTriaStandalone (lump : Bool) (vtx : Nat → V3 K) (ts : List Tri) : Coo K :=
  List.flatten <| (ts.zip (triVolsMass vtx ts)).map fun (τ, vol) =>
    if lump then triBlockL τ (vol / ((3 : Nat) : K))
    else
      let bii := vol / ((6 : Nat) : K); let bij := vol / ((12 : Nat) : K)
      triBlock τ bij bij bij bii bii bii

/-! ### `_fem_tria_aniso` -/

/-- `np.sum(uva * aniso_mat * uvb, axis=1)` with `uve = (u1·e, u2·e)` -/
def anisoDot (u1 u2 : V3 K) (d0 d1 : K) (ea eb : V3 K) : K :=
  dot u1 ea * d0 * dot u1 eb + dot u2 ea * d1 * dot u2 eb

/-- per-triangle inputs: `(u1, u2, aniso_mat[:,0], aniso_mat[:,1])` -/
def stiffTriaAniso (vtx : Nat → V3 K) (ts : List Tri) (us : List (V3 K × V3 K × K × K)) : Coo K :=
  List.flatten <| ((ts.zip (triVols vtx ts)).zip us).map fun ((τ, vol), (u1, u2, d0, d1)) =>
    let v1 := vtx τ.1; let v2 := vtx τ.2.1; let v3 := vtx τ.2.2
    let a12 := anisoDot u1 u2 d0 d1 (v3 - v2) (v1 - v3) / vol
    let a23 := anisoDot u1 u2 d0 d1 (v1 - v3) (v2 - v1) / vol
    let a31 := anisoDot u1 u2 d0 d1 (v2 - v1) (v3 - v2) / vol
    triBlockA τ a12 a23 a31

/-! ### `_fem_tetra` -/

variable [HasAbs K]

/-- `vol = np.abs(np.sum(e4 * np.cross(e1, e3), axis=1))`  (6 × volume) -/
def tetVol (v1 v2 v3 v4 : V3 K) : K :=
  HasAbs.abs (dot (v4 - v1) (cross (v2 - v1) (v1 - v3)))

/-- clamped `vol` array of `_fem_tetra` (`vol == 0` ↦ `0.0001*mean`) -/
def tetVols (vtx : Nat → V3 K) (ts : List Tet) : List K :=
  let raw := ts.map fun τ => tetVol (vtx τ.1) (vtx τ.2.1) (vtx τ.2.2.1) (vtx τ.2.2.2)
  let vm := (((1 : Nat) : K) / ((10000 : Nat) : K)) * meanL raw
  raw.map fun vol => if vol == 0 then vm else vol

/-- the sixteen triplets of one tetrahedron in the code's column order -/
def tetBlock (τ : Tet) (o12 o23 o13 o14 o24 o34 d1 d2 d3 d4 : K) : Coo K :=
  let (t1, t2, t3, t4) := τ
  [((t1, t2), o12), ((t2, t1), o12), ((t2, t3), o23), ((t3, t2), o23), ((t3, t1), o13), ((t1, t3), o13),
   ((t1, t4), o14), ((t4, t1), o14), ((t2, t4), o24), ((t4, t2), o24), ((t3, t4), o34), ((t4, t3), o34),
   ((t1, t1), d1), ((t2, t2), d2), ((t3, t3), d3), ((t4, t4), d4)]

def tetBlockL (τ : Tet) (b : K) : Coo K :=
  let (t1, t2, t3, t4) := τ
  [((t1, t1), b), ((t2, t2), b), ((t3, t3), b), ((t4, t4), b)]

/-- the six off-diagonal values `a12 a13 a14 a23 a24 a34` (before `/ 6.0`) -/
def tetOff (v1 v2 v3 v4 : V3 K) (vol : K) : K × K × K × K × K × K :=
  let e1 := v2 - v1; let e2 := v3 - v2; let e3 := v1 - v3
  let e4 := v4 - v1; let e5 := v4 - v2; let e6 := v4 - v3
  let e11 := dot e1 e1; let e22 := dot e2 e2; let e33 := dot e3 e3
  let e44 := dot e4 e4; let e55 := dot e5 e5; let e66 := dot e6 e6
  let e12 := dot e1 e2; let e13 := dot e1 e3; let e14 := dot e1 e4; let e15 := dot e1 e5
  let e23 := dot e2 e3; let e25 := dot e2 e5; let e26 := dot e2 e6
  let e34 := dot e3 e4; let e36 := dot e3 e6
  ( (-e36 * e26 + e23 * e66) / vol,
    (-e15 * e25 + e12 * e55) / vol,
    (e23 * e26 - e36 * e22) / vol,
    (-e14 * e34 + e13 * e44) / vol,
    (e13 * e34 - e14 * e33) / vol,
    (-e14 * e13 + e11 * e34) / vol )

def stiffTet (vtx : Nat → V3 K) (ts : List Tet) : Coo K :=
  List.flatten <| (ts.zip (tetVols vtx ts)).map fun (τ, vol) =>
    let (a12, a13, a14, a23, a24, a34) := tetOff (vtx τ.1) (vtx τ.2.1) (vtx τ.2.2.1) (vtx τ.2.2.2) vol
    let s : K := ((6 : Nat) : K)
    tetBlock τ (a12 / s) (a23 / s) (a13 / s) (a14 / s) (a24 / s) (a34 / s)
      ((-a12 - a13 - a14) / s) ((-a12 - a23 - a24) / s) ((-a13 - a23 - a34) / s) ((-a14 - a24 - a34) / s)

def massTet (lump : Bool) (vtx : Nat → V3 K) (ts : List Tet) : Coo K :=
  List.flatten <| (ts.zip (tetVols vtx ts)).map fun (τ, vol) =>
    if lump then tetBlockL τ (vol / ((24 : Nat) : K))
    else
      let bii := vol / ((60 : Nat) : K); let bij := vol / ((120 : Nat) : K)
      tetBlock τ bij bij bij bij bij bij bii bii bii bii

/-! ### `Solver.__init__`, anisotropic branch -/

/-- `aniso_mat[:, 0] = exp(-aniso0 * |c2|)`, `aniso_mat[:, 1] = exp(-aniso1 * |c1|)` -/
def anisoWeights [HasExp K] (a0 a1 c1 c2 : K) : K × K :=
  (HasExp.exp (-a0 * HasAbs.abs c2), HasExp.exp (-a1 * HasAbs.abs c1))

/-- `Solver(tria, lump, aniso=(a0, a1))` given the per-triangle output `(u1, u2, c1, c2)` of `curvature_tria`:
    the anisotropic stiffness with the weights above and the (lumped or full) mass matrix — `lump` is passed on. -/
def solverAniso [HasExp K] (lump : Bool) (vtx : Nat → V3 K) (ts : List Tri) (a0 a1 : K) (cur : List (V3 K × V3 K × K × K)) :
    Coo K × Coo K :=
  (stiffTriaAniso vtx ts (cur.map fun (u1, u2, c1, c2) => let w := anisoWeights a0 a1 c1 c2; (u1, u2, w.1, w.2)),
   massTria lump vtx ts)

end Fem
end LapyVerif
