import LapyVerif.Lemmas.BridgeTac
import LapyVerif.Bridge.Tetra
import LapyVerif.Model.Refine
import LapyVerif.Generated.RefineTri
/-
  Bridge: `TriaMesh.refine_(1)` (lapy/tria_mesh.py) traced on the boundary of a generic tetrahedron with symbolic vertices is the body of the model's
  `Refine.refine1` at the upper-triangular edge numbering: the four old vertices are kept, the six new ones are the edge midpoints in the order of the upper-triangular edge numbering,
  and the sixteen triangles (concrete indices) are the model's children — numbering included.
-/
namespace LapyVerif.Bridge

/-- the body of `Refine.refine1` with the edge numbering as a parameter -/
noncomputable def refineBody (edges : List (Nat × Nat)) (verts : List (V3 ℝ)) (ts : List Tri) : List (V3 ℝ) × List Tri :=
  let vno := verts.length
  let vtx := fun i => verts.getD i ⟨0, 0, 0⟩
  let vnew := verts ++ edges.map fun k => Refine.midpoint (vtx k.1) (vtx k.2)
  let tnew := ts.flatMap fun (t0, t1, t2) =>
    let e1 := Refine.edgeVertex edges vno t0 t1
    let e2 := Refine.edgeVertex edges vno t1 t2
    let e3 := Refine.edgeVertex edges vno t2 t0
    [(t0, e1, e3), (t1, e2, e1), (t2, e3, e2), (e1, e2, e3)]
  (vnew, tnew)

/-- `refine1` is that body at the model's edge numbering (sorted distinct undirected edges) -/
theorem refine1_eq_body (verts : List (V3 ℝ)) (ts : List Tri) :
    Refine.refine1 verts ts = refineBody (Refine.edgeList ts) verts ts := rfl

/-- the upper-triangular numbering of the six edges of the tetrahedron boundary: the value of `Refine.edgeList T4`
    (`Topo.mergeSort_lexLe_eq` with two `decide`s proves that equation, as Props/C11 does for its meshes); the two bridges below are stated at this literal -/
def E6 : List (Nat × Nat) := [(0, 1), (0, 2), (0, 3), (1, 2), (1, 3), (2, 3)]

/-- **connectivity**: the sixteen triangles of the traced code, numbering included -/
theorem refine_trias (v0 v1 v2 v3 : V3 ℝ) :
    (refineBody E6 [v0, v1, v2, v3] T4).2 = Gen.RefineTri.trias := by
  simp only [refineBody, List.length_cons, List.length_nil]
  decide

/-- **coordinates**: old vertices unchanged, new vertices at the edge midpoints, in edge order -/
theorem refine_verts (v0 v1 v2 v3 : V3 ℝ) :
    ((refineBody E6 [v0, v1, v2, v3] T4).1.flatMap fun p => [p.x, p.y, p.z]) = Gen.RefineTri.verts v0 v1 v2 v3 := by
  simp only [refineBody, E6, List.map_cons, List.map_nil, List.cons_append, List.nil_append, List.append_nil,
    List.getD_cons_zero, List.getD_cons_succ, Refine.midpoint, List.flatMap_cons, List.flatMap_nil, Gen.RefineTri.verts]
  v3_flat [Gen.RefineTri.verts_0, Gen.RefineTri.verts_1, Gen.RefineTri.verts_2, Gen.RefineTri.verts_3, Gen.RefineTri.verts_4,
    Gen.RefineTri.verts_5, Gen.RefineTri.verts_6, Gen.RefineTri.verts_7, Gen.RefineTri.verts_8, Gen.RefineTri.verts_9,
    Gen.RefineTri.verts_10, Gen.RefineTri.verts_11, Gen.RefineTri.verts_12, Gen.RefineTri.verts_13, Gen.RefineTri.verts_14,
    Gen.RefineTri.verts_15, Gen.RefineTri.verts_16, Gen.RefineTri.verts_17, Gen.RefineTri.verts_18, Gen.RefineTri.verts_19,
    Gen.RefineTri.verts_20, Gen.RefineTri.verts_21, Gen.RefineTri.verts_22, Gen.RefineTri.verts_23, Gen.RefineTri.verts_24,
    Gen.RefineTri.verts_25, Gen.RefineTri.verts_26, Gen.RefineTri.verts_27, Gen.RefineTri.verts_28, Gen.RefineTri.verts_29]

theorem census_RefineTri_pcCount : Gen.RefineTri.pcCount = 0 := rfl

end LapyVerif.Bridge
