import LapyVerif.Model.Orient
import LapyVerif.Model.Refine
import LapyVerif.Model.TetTopo
import LapyVerif.Model.Transfer
/-
  Model of the mesh objects as state machines (C20).

  A `TriaMesh` object is `(v, t, adj_sym, adj_dir)`: the adjacency matrices are *cached* at construction and read by
  the queries.  Every in-place operation computes new `(v, t)`; whether the caches are rebuilt (`self.__init__`) is not
  decided here: it is a parameter `reb : String → Bool` on the method names (`op.name`) that is instantiated with the table extracted from the source
  (`Generated/Effects.lean`).  A `TetMesh` object is `(v, t, adj_sym)`.
-/
namespace LapyVerif
namespace History
open V3

variable {K : Type} [Zero K] [Add K] [Sub K] [Mul K] [Div K] [Neg K] [NatCast K] [HasSqrt K]
variable [LT K] [DecidableRel (α := K) (· < ·)]

structure TriState (K : Type) where
  v : List (V3 K)
  t : List Tri
  symK : List (Nat × Nat)     -- keys handed to the constructor of `adj_sym` (the cached matrix)
  dirK : List (Nat × Nat)     -- keys of the cached `adj_dir`

/-- the constructor: caches are computed from `t` -/
def TriState.fresh (v : List (V3 K)) (t : List Tri) : TriState K :=
  { v := v, t := t, symK := Topo.symKeys t, dirK := Topo.dirKeys t }

inductive TriOp (K : Type) where
  | orient
  | refine (it : Nat)
  | rmFree
  | normalize
  | smooth (n : Nat)
  | offset (d : K)

/-- name of the method in `lapy/tria_mesh.py` (key of the generated effect table) -/
def TriOp.name : TriOp K → String
  | .orient => "orient_"
  | .refine _ => "refine_"
  | .rmFree => "rm_free_vertices_"
  | .normalize => "normalize_"
  | .smooth _ => "smooth_"
  | .offset _ => "normal_offset_"

def vtxOfList (v : List (V3 K)) : Nat → V3 K := fun i => v.getD i ⟨0, 0, 0⟩

/-- dimension of a sparse matrix built from `keys` without an explicit shape: largest index + 1 (0 if empty) -/
def adjDim (keys : List (Nat × Nat)) : Nat :=
  keys.foldl (fun m k => max m (max k.1 k.2 + 1)) 0

/-- new `(v, t)` computed by an operation; `none` = the operation raised (state unchanged).
    Of the operations only `.smooth` reads a cache (`s.symK`); `.refine` and `.orient` recompute what they need from
    `s.t` although `refine_` reads the cached `adj_sym` and `orient_` starts with `is_oriented()`, which reads the cached
    `adj_dir`.  `.rmFree` with nothing to remove is `some` of the unchanged `(v, t)`, whereas
    `rm_free_vertices_` returns early without re-running the constructor (for tetrahedra this case is `none`, see
    `tetEffect`); the two agree whenever the caches are fresh (`TriInv`). -/
def triEffect (s : TriState K) : TriOp K → Option (List (V3 K) × List Tri)
  | .orient =>
    match Orient.orient (vtxOfList s.v) s.t with
    | .ok ts _ => some (s.v, ts)
    | _ => none
  | .refine it => some (Refine.refine it s.v s.t)
  | .rmFree =>
    let (r, tn) := RmFree.tri s.v.length s.t
    some (if r.changed then r.keep.map (fun i => s.v.getD i ⟨0, 0, 0⟩) else s.v, tn)
  | .normalize => some (Measures.normalize s.v (vtxOfList s.v) s.t, s.t)
  | .smooth n =>
    -- `adj_sym` has no explicit shape: its dimension is the largest cached index + 1; the product with the
    -- (len(v) x 3) coordinate array raises ValueError when trailing vertices are unused (or the cache is stale)
    if adjDim s.symK != s.v.length then none else
    let f := s.v.map fun p => [p.x, p.y, p.z]
    let g := Transfer.smooth s.symK (Measures.vertexAreas (vtxOfList s.v) s.t) f n
    some (g.map fun r => ⟨r.getD 0 0, r.getD 1 0, r.getD 2 0⟩, s.t)
  | .offset d =>
    match Measures.normalOffset d s.v (vtxOfList s.v) s.t with
    | some vn => some (vn, s.t)
    | none => none

/-- one step: the caches are rebuilt iff the source re-runs the constructor -/
def triStep (reb : String → Bool) (s : TriState K) (op : TriOp K) : TriState K :=
  match triEffect s op with
  | none => s
  | some (v', t') =>
    if reb op.name then TriState.fresh v' t' else { s with v := v', t := t' }

def triRun (reb : String → Bool) (s : TriState K) (ops : List (TriOp K)) : TriState K :=
  ops.foldl (triStep reb) s

/-- the invariant: cached adjacency is what the constructor would compute from the current triangles -/
def TriInv (s : TriState K) : Prop := s.symK = Topo.symKeys s.t ∧ s.dirK = Topo.dirKeys s.t

/-! queries read the caches, exactly where the code does -/
def qClosed (s : TriState K) : Bool := !(Coo.data (s.symK.map fun k => (k, 1))).contains 1
def qManifold (s : TriState K) : Bool := Topo.maxL (Coo.data (s.symK.map fun k => (k, 1))) ≤ 2
def qOriented (s : TriState K) : Bool := Topo.maxL (Coo.data (s.dirK.map fun k => (k, 1))) == 1
def qEuler (s : TriState K) : Int :=
  ((Topo.usedVerts s.t).length : Int) - ((Coo.nnz (s.symK.map fun k => (k, (1 : Nat))) / 2 : Nat) : Int) + (s.t.length : Int)

/-! ### tetrahedral meshes -/

structure TetState (K : Type) where
  v : List (V3 K)
  t : List Tet
  symK : List (Nat × Nat)

def TetState.fresh (v : List (V3 K)) (t : List Tet) : TetState K := { v := v, t := t, symK := TetTopo.symKeys t }

inductive TetOp where
  | orient
  | rmFree

def TetOp.name : TetOp → String
  | .orient => "orient_"
  | .rmFree => "rm_free_vertices_"

def tetEffect (s : TetState K) : TetOp → Option (List (V3 K) × List Tet)
  | .orient =>
    let (tn, n) := TetTopo.orient (vtxOfList s.v) s.t
    if n == 0 then none else some (s.v, tn)      -- "Mesh is oriented, nothing to do": early return, nothing written
  | .rmFree =>
    let (r, tn) := RmFree.tet s.v.length s.t
    if r.changed then some (r.keep.map (fun i => s.v.getD i ⟨0, 0, 0⟩), tn) else none

def tetStep (reb : String → Bool) (s : TetState K) (op : TetOp) : TetState K :=
  match tetEffect s op with
  | none => s
  | some (v', t') => if reb op.name then TetState.fresh v' t' else { s with v := v', t := t' }

def tetRun (reb : String → Bool) (s : TetState K) (ops : List TetOp) : TetState K := ops.foldl (tetStep reb) s

def TetInv (s : TetState K) : Prop := s.symK = TetTopo.symKeys s.t

end History
end LapyVerif

namespace LapyVerif.History

/-- the shape / index checks of `TriaMesh.__init__` on arrays of shape `(vr,vc)` and `(tr,tc)` with largest index `maxT`:
    `.ok (transposeV, transposeT)` or `ValueError` -/
def ctorTri (vr vc tr tc maxT : Nat) : Except String (Bool × Bool) :=
  let tv := decide (vr < vc)
  let tt := decide (tr < tc)
  let vc' := if tv then vr else vc
  let tc' := if tt then tr else tc
  let vnum := max vr vc
  if maxT ≥ vnum then .error "ValueError"
  else if tc' ≠ 3 then .error "ValueError"
  else if vc' ≠ 3 then .error "ValueError"
  else .ok (tv, tt)

/-- `TetMesh.__init__` only checks the index range -/
def ctorTet (vr vc maxT : Nat) : Except String Unit :=
  if maxT ≥ max vr vc then .error "ValueError" else .ok ()

end LapyVerif.History
