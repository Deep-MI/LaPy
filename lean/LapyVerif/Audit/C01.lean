import LapyVerif.Props.C01
import LapyVerif.Bridge.Fem
import LapyVerif.Bridge.SolverAniso
import LapyVerif.Bridge.CurvTria
import LapyVerif.Bridge.Dispatch
/- axiom audit of C01: every property theorem and every bridge it rests on -/
#print axioms LapyVerif.Props.C01.stiff_form
#print axioms LapyVerif.Props.C01.stiff_form_symm
#print axioms LapyVerif.Props.C01.stiff_entry_symm
#print axioms LapyVerif.Props.C01.stiff_const_zero
#print axioms LapyVerif.Props.C01.stiff_psd
#print axioms LapyVerif.Props.C01.stiff_denominators
#print axioms LapyVerif.Props.C01.stiff_form_reorder
#print axioms LapyVerif.Props.C01.stiff_entry_reorder
#print axioms LapyVerif.Props.C01.stiff_form_tet
#print axioms LapyVerif.Props.C01.stiff_form_symm_tet
#print axioms LapyVerif.Props.C01.stiff_entry_symm_tet
#print axioms LapyVerif.Props.C01.stiff_const_zero_tet
#print axioms LapyVerif.Props.C01.stiff_psd_tet
#print axioms LapyVerif.Spec.gradTri_char
#print axioms LapyVerif.Spec.gradTri_unique
#print axioms LapyVerif.Spec.gradTet_char
#print axioms LapyVerif.Spec.gradTet_unique
#print axioms LapyVerif.V3.dot_cramer
#print axioms LapyVerif.V3.eq_cramer
#print axioms LapyVerif.Spec.gradTri_dot
#print axioms LapyVerif.V3.normSq_eq_dot
#print axioms LapyVerif.FemTri.iso_local_form
#print axioms LapyVerif.FemTri.local_form
#print axioms LapyVerif.FemTet.local_form
#print axioms LapyVerif.Coo.form_flatten_map
#print axioms LapyVerif.Bridge.fem_tria_A
#print axioms LapyVerif.Bridge.fem_tria_AL
#print axioms LapyVerif.Bridge.fem_aniso_A
#print axioms LapyVerif.Bridge.fem_tet_A
#print axioms LapyVerif.Bridge.solver_aniso_pc
#print axioms LapyVerif.Bridge.solver_aniso_gen_A
#print axioms LapyVerif.Bridge.solver_aniso_A
#print axioms LapyVerif.Bridge.solver_aniso_scalar
#print axioms LapyVerif.Bridge.solver_aniso_lump_A
#print axioms LapyVerif.Bridge.solver_aniso_B
#print axioms LapyVerif.Bridge.solver_aniso_smooth
#print axioms LapyVerif.Bridge.proj_eq
#print axioms LapyVerif.Bridge.curv_tria_umin
#print axioms LapyVerif.Bridge.curv_tria_umax
#print axioms LapyVerif.Bridge.curv_tria_c
#print axioms LapyVerif.Bridge.curv_tria_smooth
#print axioms LapyVerif.Bridge.census_CurvTria_pcCount
#print axioms LapyVerif.Bridge.census_FemTria_pcCount
#print axioms LapyVerif.Bridge.census_FemTriaMass_pcCount
#print axioms LapyVerif.Bridge.census_FemTriaAniso_pcCount
#print axioms LapyVerif.Bridge.census_FemTet_pcCount
#print axioms LapyVerif.Bridge.census_SolverAniso_pcCount
#print axioms LapyVerif.Bridge.dispatch_facts
