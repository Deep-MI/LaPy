import LapyVerif.Props.C19
import LapyVerif.Props.C19b
import LapyVerif.Props.C19c
import LapyVerif.Bridge.FlowGlue
#print axioms LapyVerif.Props.C19.areaC_def
#print axioms LapyVerif.Props.C19.areaC_eq_triArea
#print axioms LapyVerif.Props.C19.centroid_snd_eq_area
#print axioms LapyVerif.Props.C19.shrink_isSimilarity
#print axioms LapyVerif.Props.C13.centroid_eq
#print axioms LapyVerif.Props.C19.sum_smul_affine
#print axioms LapyVerif.Props.C19.centroid_affine
#print axioms LapyVerif.Props.C19.normalize_spec
#print axioms LapyVerif.Props.C19.project_radius
#print axioms LapyVerif.Props.C19.project_radius_norm
#print axioms LapyVerif.Props.C19.maxL_neg
#print axioms LapyVerif.Props.C19.minL_neg
#print axioms LapyVerif.Props.C19.flags_neg
#print axioms LapyVerif.Props.C19.axisDiff_neg
#print axioms LapyVerif.Props.C19.axis_flip
#print axioms LapyVerif.Props.C19.axis_flip_idem
#print axioms LapyVerif.Props.C19.flow_step_fixed
#print axioms LapyVerif.Props.C19.flow_mass_pd
#print axioms LapyVerif.Props.C19.flow_step_unique
#print axioms LapyVerif.Props.C19.diag_pd
#print axioms LapyVerif.Props.C19.diag_form_pos
#print axioms LapyVerif.Props.C19.ex_area
#print axioms LapyVerif.Props.C19.maxL_eq_lmax
#print axioms LapyVerif.Props.C19.minL_eq_lmin
#print axioms LapyVerif.ite_lt_eq_max
#print axioms LapyVerif.foldl_max_spec
#print axioms LapyVerif.Props.C19.meanSel_eq
#print axioms LapyVerif.Props.C19.axisDiff_eq
#print axioms LapyVerif.Props.C19.alignAxis_eq
#print axioms LapyVerif.Props.C19.flow_axis_flip
#print axioms LapyVerif.Props.C19.flow_alignAxis_idem
#print axioms LapyVerif.Props.C19.project100_eq
#print axioms LapyVerif.Props.C19.flow_project_radius
#print axioms LapyVerif.Props.C19.stepMatrix_eq
#print axioms LapyVerif.Props.C19.stepMatrix_eq_solver
#print axioms LapyVerif.Props.C19.flow_step_fixed_model
#print axioms LapyVerif.Props.C19.stepMatrix_form
#print axioms LapyVerif.Props.C19.lumped_form_pos
#print axioms LapyVerif.Props.C19.flow_system_pd
#print axioms LapyVerif.Props.C19.gates_spec
#print axioms LapyVerif.Props.C19.gates_accept_range
#print axioms LapyVerif.Props.C19.stepDiff_nonneg
#print axioms LapyVerif.Props.C19.le_maxL
#print axioms LapyVerif.Props.C19.minL_le
#print axioms LapyVerif.Props.C19.maxL_mem
#print axioms LapyVerif.Props.C19.minL_mem
#print axioms LapyVerif.Props.C19.poles_neg
#print axioms LapyVerif.Props.C19.unitRange_length
#print axioms LapyVerif.Props.C19.rescale_spec
#print axioms LapyVerif.Props.C19.embed_eq
#print axioms LapyVerif.Props.C19.embed_error_iff
#print axioms LapyVerif.Props.C19.embed_ok_iff
#print axioms LapyVerif.Props.C19.embed_ok_eq
#print axioms LapyVerif.Props.C19.aligned1_axis
#print axioms LapyVerif.Props.C19.aligned2_axis
#print axioms LapyVerif.Props.C19.aligned3_axis
#print axioms LapyVerif.Props.C19.second_symm
#print axioms LapyVerif.Props.C19.third_symm
#print axioms LapyVerif.Props.C19.embed_swap_symm
#print axioms LapyVerif.Props.C19.spatvol_symm
#print axioms LapyVerif.Props.C19.embed_length
#print axioms LapyVerif.Props.C19.unitRange_bounds
#print axioms LapyVerif.Props.C19.unitRange_mem_bounds
#print axioms LapyVerif.Props.C19.bothSigns_neg
#print axioms LapyVerif.Props.C19.embed_coords_bounded
#print axioms LapyVerif.Props.C19.embed_oct
#print axioms LapyVerif.Bridge.flow_events
#print axioms LapyVerif.Bridge.heat_Mat4_Diag4
#print axioms LapyVerif.Bridge.flow_sysA1
#print axioms LapyVerif.Bridge.flow_sysA2
#print axioms LapyVerif.Bridge.flow_rhs
#print axioms LapyVerif.Bridge.flow_diff1
#print axioms LapyVerif.Bridge.flow_pc
#print axioms LapyVerif.Bridge.census_FlowGlue_pcCount
