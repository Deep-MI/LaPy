import Mathlib.Order.MinMax
/-
  Folding a list with `max` / `min` from a start value, as NumPy-style running extrema are modelled
  (`if m < x then x else m`).  Stated for `max`; the statements for `min` are these in the dual order.
-/
namespace LapyVerif
variable {α : Type} [LinearOrder α]

theorem ite_lt_eq_max : (fun m x : α => if m < x then x else m) = max := by
  funext m x
  by_cases h : m < x
  · rw [if_pos h, max_eq_right h.le]
  · rw [if_neg h, max_eq_left (not_lt.mp h)]

theorem ite_lt_eq_min : (fun m x : α => if x < m then x else m) = min :=
  ite_lt_eq_max (α := αᵒᵈ)

theorem foldl_max_spec (l : List α) (a : α) :
    a ≤ l.foldl max a ∧ (∀ x ∈ l, x ≤ l.foldl max a) ∧ l.foldl max a ∈ a :: l := by
  -- core's `max?` of `a :: l` is this fold, by definition
  obtain ⟨hm, hle⟩ := List.max?_eq_some_iff.mp (List.max?_cons' (x := a) (xs := l))
  exact ⟨hle a List.mem_cons_self, fun x hx => hle x (List.mem_cons_of_mem _ hx), hm⟩

theorem foldl_min_spec (l : List α) (a : α) :
    l.foldl min a ≤ a ∧ (∀ x ∈ l, l.foldl min a ≤ x) ∧ l.foldl min a ∈ a :: l :=
  foldl_max_spec (α := αᵒᵈ) l a

end LapyVerif
