import LapyVerif.Props.C07
import LapyVerif.Props.C17
/-
  C07 (anisotropic option) — `diffusion(tria, vids, m, aniso=(a0,a1))` solves `(B_lumped + t·A_aniso) u = b` with the
  anisotropic stiffness of `Solver.__init__`'s aniso branch (`Fem.solverAniso`): the conservation law carries over.
  `u` and `b` are arbitrary, so the hypotheses hold on any non-degenerate mesh (take `b` the rows of the system); a
  worked instance of `heat_conservation` is in `Props/Examples.lean`.  The positivity of the weights is
  recorded but not needed for conservation.
-/
namespace LapyVerif.Props.C07

/-- the weights `exp(-a|c|)` are positive whatever the curvature output is -/
theorem anisoWeights_pos (a0 a1 c1 c2 : ℝ) :
    0 < (Fem.anisoWeights a0 a1 c1 c2).1 ∧ 0 < (Fem.anisoWeights a0 a1 c1 c2).2 := by
  simp only [Fem.anisoWeights, exp_real]
  exact ⟨Real.exp_pos _, Real.exp_pos _⟩

/-- `Solver(tria, lump=True, aniso=…)` keeps the lumped mass matrix: the `lump` flag is passed on -/
theorem solverAniso_mass (lump : Bool) (vtx : Nat → V3 ℝ) (ts : List Tri) (a0 a1 : ℝ) (cur : List (V3 ℝ × V3 ℝ × ℝ × ℝ)) :
    (Fem.solverAniso lump vtx ts a0 a1 cur).2 = Fem.massTria lump vtx ts := rfl

/-- **conservation with the anisotropic operator**: if `u` solves the system built by `diffusion(…, aniso=…)` then
    `1ᵀ B u = Σ b` with `B` the lumped mass matrix. -/
theorem heat_conservation_aniso (t : ℝ) (vtx : Nat → V3 ℝ) (ts : List Tri) (a0 a1 : ℝ) (cur : List (V3 ℝ × V3 ℝ × ℝ × ℝ))
    (h : NonDegenTri vtx ts) (u b : Nat → ℝ) (n : Nat)
    (hA : ∀ e ∈ (Fem.solverAniso true vtx ts a0 a1 cur).1, e.1.1 < n)
    (hB : ∀ e ∈ (Fem.solverAniso true vtx ts a0 a1 cur).2, e.1.1 < n)
    (hsolve : ∀ i < n, Coo.mulVec (Heat.heatMat t (Fem.solverAniso true vtx ts a0 a1 cur).1 (Fem.solverAniso true vtx ts a0 a1 cur).2) u i = b i) :
    Coo.form (Fem.massTria true vtx ts) (fun _ => 1) u = ∑ i ∈ Finset.range n, b i := by
  have := heat_conservation t _ _ u b n hA hB
    (fun f g => C17.stiffAniso_symm vtx ts _ h f g) (fun i => C17.stiffAniso_const_zero vtx ts _ h 1 i) hsolve
  simpa [Fem.solverAniso] using this

end LapyVerif.Props.C07
