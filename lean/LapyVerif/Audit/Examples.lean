import LapyVerif.Props.Examples
/- axiom audit of the non-vacuity examples -/
#print axioms LapyVerif.Props.Examples.nd_sq
#print axioms LapyVerif.Props.Examples.nd_tet
#print axioms LapyVerif.Props.Examples.ex_stiff_form
#print axioms LapyVerif.Props.Examples.ex_stiff_entry
#print axioms LapyVerif.Props.Examples.ex_mass_total
#print axioms LapyVerif.Props.Examples.key01_mem
#print axioms LapyVerif.Props.Examples.ex_mass_total_tet
#print axioms LapyVerif.Props.Examples.key01_mem_tet
#print axioms LapyVerif.Props.Examples.reduce3
#print axioms LapyVerif.Props.Examples.ex_interior_eq
#print axioms LapyVerif.Props.Examples.ndln_sq
#print axioms LapyVerif.Props.Examples.nddet_tet
#print axioms LapyVerif.Props.Examples.ex_heat_conservation
#print axioms LapyVerif.Props.Examples.ex_heron_345
#print axioms LapyVerif.Props.Examples.ex_quality_equilateral
#print axioms LapyVerif.Props.Examples.ex_quality_right
#print axioms LapyVerif.Props.Examples.ndN_tri
#print axioms LapyVerif.Props.Examples.ex_area_sq
#print axioms LapyVerif.Props.Examples.ex_area_scaled
