import Mathlib.Data.List.Nodup
import LapyVerif.Model.Mesh
/-
  Directed and undirected edges of one triangle.  An undirected edge is the sorted pair `und x` under a directed edge
  `x`: `undEdges τ = (dirEdges τ).map und`.  So the facts about undirected edges come from a few facts about `dirEdges`,
  proved by going through the three edges, and a few about `und`, which do not mention triangles.
  The file has no namespace of its own: the notions carry the full names
  `OrientLemmas.*`, `OrientMesh.TriDistinct`, `Props.C09.triSymKeys` under which theorem statements of C09–C12 mention
  them; they stand here because C09, C11 and C12 need them below the files those names point to.
-/
namespace LapyVerif
namespace OrientLemmas

/-- the vertices of a triangle (`Props.C09.triVerts` and `Props.C10.verts` are the same list, `rfl`) -/
def tverts (τ : Tri) : List Nat := [τ.1, τ.2.1, τ.2.2]

def dirEdges (τ : Tri) : List (Nat × Nat) := [(τ.1, τ.2.1), (τ.2.1, τ.2.2), (τ.2.2, τ.1)]

def undEdges (τ : Tri) : List (Nat × Nat) :=
  [(min τ.1 τ.2.1, max τ.1 τ.2.1), (min τ.2.1 τ.2.2, max τ.2.1 τ.2.2), (min τ.2.2 τ.1, max τ.2.2 τ.1)]

def undKeys (ts : List Tri) : List (Nat × Nat) := ts.flatMap undEdges

def und (x : Nat × Nat) : Nat × Nat := (min x.1 x.2, max x.1 x.2)

theorem und_eq_or (x : Nat × Nat) : und x = x ∨ und x = x.swap := by
  obtain ⟨a, b⟩ := x
  rcases Nat.le_total a b with h | h
  · exact Or.inl (by simp [und, Nat.min_eq_left h, Nat.max_eq_right h])
  · exact Or.inr (by simp [und, Nat.min_eq_right h, Nat.max_eq_left h])

theorem und_swap (x : Nat × Nat) : und x.swap = und x := by
  simp only [und, Prod.fst_swap, Prod.snd_swap, Nat.min_comm, Nat.max_comm]

theorem und_eq_und {x y : Nat × Nat} : und x = und y ↔ x = y ∨ x = y.swap := by
  constructor
  · intro h
    rcases und_eq_or x with hx | hx <;> rcases und_eq_or y with hy | hy <;> rw [hx, hy] at h
    · exact Or.inl h
    · exact Or.inr h
    · exact Or.inr (by rw [← h, Prod.swap_swap])
    · exact Or.inl (by rw [← Prod.swap_swap x, h, Prod.swap_swap])
  · rintro (rfl | rfl)
    · rfl
    · exact und_swap y

theorem mem_und (x : Nat × Nat) (v : Nat) : (v = (und x).1 ∨ v = (und x).2) ↔ (v = x.1 ∨ v = x.2) := by
  rcases und_eq_or x with h | h <;> rw [h]
  exact or_comm

theorem und_lt {x : Nat × Nat} (h : x.1 ≠ x.2) : (und x).1 < (und x).2 := by
  simp only [und]
  omega

/-- over an undirected edge lie the two directed ones -/
theorem count_map_und (l : List (Nat × Nat)) {x : Nat × Nat} (hx : x.1 ≠ x.2) :
    (l.map und).count (und x) = l.count x + l.count x.swap := by
  induction l with
  | nil => rfl
  | cons y l ih =>
    have hne : x ≠ x.swap := fun h => hx (congrArg Prod.fst h)
    simp only [List.map_cons, List.count_cons, ih, beq_iff_eq, und_eq_und]
    by_cases h1 : y = x
    · simp [h1, hne]; omega
    · by_cases h2 : y = x.swap
      · simp [h2, hne.symm]; omega
      · simp [h1, h2]

theorem undEdges_eq (τ : Tri) : undEdges τ = (dirEdges τ).map und := rfl

theorem verts_of_dirEdge {τ : Tri} {x : Nat × Nat} (hx : x ∈ dirEdges τ) : x.1 ∈ tverts τ ∧ x.2 ∈ tverts τ := by
  obtain ⟨t0, t1, t2⟩ := τ
  simp only [dirEdges, List.mem_cons, List.not_mem_nil, or_false] at hx
  rcases hx with rfl | rfl | rfl <;> simp [tverts]

theorem dirEdge_of_verts {τ : Tri} {a b : Nat} (hab : a ≠ b) (ha : a ∈ tverts τ) (hb : b ∈ tverts τ) :
    (a, b) ∈ dirEdges τ ∨ (b, a) ∈ dirEdges τ := by
  obtain ⟨t0, t1, t2⟩ := τ
  simp only [tverts, List.mem_cons, List.not_mem_nil, or_false] at ha hb
  simp only [dirEdges, List.mem_cons, List.not_mem_nil, or_false, Prod.mk.injEq]
  rcases ha with rfl | rfl | rfl <;> rcases hb with rfl | rfl | rfl <;> first | exact absurd rfl hab | simp

theorem dirEdges_cover {τ : Tri} {x y : Nat × Nat} (hx : x ∈ dirEdges τ) (hy : y ∈ dirEdges τ) (hne : x ≠ y) :
    ∀ v ∈ tverts τ, (v = x.1 ∨ v = x.2) ∨ (v = y.1 ∨ v = y.2) := by
  obtain ⟨t0, t1, t2⟩ := τ
  simp only [dirEdges, List.mem_cons, List.not_mem_nil, or_false] at hx hy
  rcases hx with rfl | rfl | rfl <;> rcases hy with rfl | rfl | rfl <;>
    first
    | exact absurd rfl hne
    | simp [tverts]

end OrientLemmas

namespace OrientMesh
open OrientLemmas

def TriDistinct (τ : Tri) : Prop := τ.1 ≠ τ.2.1 ∧ τ.2.1 ≠ τ.2.2 ∧ τ.2.2 ≠ τ.1

theorem TriDistinct.dirEdges_nodup {τ : Tri} (h : TriDistinct τ) : (dirEdges τ).Nodup := by
  obtain ⟨t0, t1, t2⟩ := τ
  simp only [TriDistinct] at h
  simp only [dirEdges, List.nodup_cons, List.mem_cons, Prod.mk.injEq, List.not_mem_nil, or_false, not_false_eq_true,
    List.nodup_nil, and_true]
  omega

theorem TriDistinct.ne_of_dirEdge {τ : Tri} (hτ : TriDistinct τ) {x : Nat × Nat} (hx : x ∈ dirEdges τ) : x.1 ≠ x.2 := by
  obtain ⟨t0, t1, t2⟩ := τ
  simp only [dirEdges, List.mem_cons, List.not_mem_nil, or_false] at hx
  rcases hx with rfl | rfl | rfl
  exacts [hτ.1, hτ.2.1, hτ.2.2]

theorem TriDistinct.swap_not_mem {τ : Tri} (hτ : TriDistinct τ) {x : Nat × Nat} (hx : x ∈ dirEdges τ) :
    x.swap ∉ dirEdges τ := by
  obtain ⟨t0, t1, t2⟩ := τ
  simp only [TriDistinct] at hτ
  simp only [dirEdges, List.mem_cons, List.not_mem_nil, or_false] at hx ⊢
  rcases hx with rfl | rfl | rfl <;> simp only [Prod.swap, Prod.mk.injEq] <;> omega

theorem TriDistinct.und_inj {τ : Tri} (hτ : TriDistinct τ) {x y : Nat × Nat} (hx : x ∈ dirEdges τ) (hy : y ∈ dirEdges τ)
    (h : und x = und y) : x = y := by
  rcases und_eq_und.1 h with h | h
  · exact h
  · exact absurd (h ▸ hx) (hτ.swap_not_mem hy)

theorem TriDistinct.dirEdge_or_iff {τ : Tri} (hτ : TriDistinct τ) {a b : Nat} :
    (a, b) ∈ dirEdges τ ∨ (b, a) ∈ dirEdges τ ↔ a ≠ b ∧ a ∈ tverts τ ∧ b ∈ tverts τ := by
  constructor
  · rintro (h | h)
    · exact ⟨hτ.ne_of_dirEdge h, verts_of_dirEdge h⟩
    · exact ⟨(hτ.ne_of_dirEdge h).symm, (verts_of_dirEdge h).symm⟩
  · rintro ⟨hab, ha, hb⟩
    exact dirEdge_of_verts hab ha hb

end OrientMesh

namespace OrientLemmas
open OrientMesh

theorem verts_of_undEdge {τ : Tri} {e : Nat × Nat} (he : e ∈ undEdges τ) : e.1 ∈ tverts τ ∧ e.2 ∈ tverts τ := by
  rw [undEdges_eq, List.mem_map] at he
  obtain ⟨x, hx, rfl⟩ := he
  rcases und_eq_or x with h | h <;> rw [h]
  · exact verts_of_dirEdge hx
  · exact (verts_of_dirEdge hx).symm

theorem undEdge_of_verts {τ : Tri} {a b : Nat} (hab : a ≠ b) (ha : a ∈ tverts τ) (hb : b ∈ tverts τ) :
    (min a b, max a b) ∈ undEdges τ := by
  rw [undEdges_eq, List.mem_map]
  rcases dirEdge_of_verts hab ha hb with h | h
  · exact ⟨(a, b), h, rfl⟩
  · exact ⟨(b, a), h, und_swap (a, b)⟩

theorem mem_undEdges_iff {τ : Tri} (hτ : TriDistinct τ) (e : Nat × Nat) :
    e ∈ undEdges τ ↔ e.1 < e.2 ∧ e.1 ∈ tverts τ ∧ e.2 ∈ tverts τ := by
  constructor
  · intro he
    refine ⟨?_, verts_of_undEdge he⟩
    rw [undEdges_eq, List.mem_map] at he
    obtain ⟨x, hx, rfl⟩ := he
    exact und_lt (hτ.ne_of_dirEdge hx)
  · rintro ⟨hlt, h1, h2⟩
    have := undEdge_of_verts (Nat.ne_of_lt hlt) h1 h2
    rwa [Nat.min_eq_left (Nat.le_of_lt hlt), Nat.max_eq_right (Nat.le_of_lt hlt)] at this

theorem undEdges_nodup {τ : Tri} (hτ : TriDistinct τ) : (undEdges τ).Nodup :=
  hτ.dirEdges_nodup.map_on fun _ hx _ hy h => hτ.und_inj hx hy h

theorem cover {τ : Tri} {e1 e2 : Nat × Nat} (h1 : e1 ∈ undEdges τ) (h2 : e2 ∈ undEdges τ) (hne : e1 ≠ e2) {x : Nat}
    (hx : x ∈ tverts τ) : x = e1.1 ∨ x = e1.2 ∨ x = e2.1 ∨ x = e2.2 := by
  rw [undEdges_eq, List.mem_map] at h1 h2
  obtain ⟨d1, hd1, rfl⟩ := h1
  obtain ⟨d2, hd2, rfl⟩ := h2
  rw [← or_assoc, mem_und, mem_und]
  exact dirEdges_cover hd1 hd2 (fun h => hne (h ▸ rfl)) x hx

theorem tverts_subset {τ τ' : Tri} {e1 e2 : Nat × Nat} (h1 : e1 ∈ undEdges τ) (h2 : e2 ∈ undEdges τ)
    (h1' : e1 ∈ undEdges τ') (h2' : e2 ∈ undEdges τ') (hne : e1 ≠ e2) : ∀ x ∈ tverts τ, x ∈ tverts τ' := by
  intro x hx
  have a1 := verts_of_undEdge h1'
  have a2 := verts_of_undEdge h2'
  rcases cover h1 h2 hne hx with rfl | rfl | rfl | rfl
  exacts [a1.1, a1.2, a2.1, a2.2]

end OrientLemmas

/-- the six symmetric keys of one triangle, in the code's order -/
def Props.C09.triSymKeys (τ : Tri) : List (Nat × Nat) :=
  [(τ.1, τ.2.1), (τ.2.1, τ.1), (τ.2.1, τ.2.2), (τ.2.2, τ.2.1), (τ.2.2, τ.1), (τ.1, τ.2.2)]

end LapyVerif
