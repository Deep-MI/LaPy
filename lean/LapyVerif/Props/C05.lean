import LapyVerif.Lemmas.Assembly
import LapyVerif.Lemmas.ListAux
import LapyVerif.Model.Poisson
/-
  C05 — the Poisson solver honours the equation and its boundary data.
  Model: `Poisson.*`.  The sparse LU solve is a parameter; theorems hold for every solver output that satisfies the
  linear system handed to it (the contract of SuperLU, monitored at run time).

  One word for one set: a vertex is *kept* when it is not a Dirichlet vertex (`freeIdx`, the code's `mask`); kept
  vertices need not be interior vertices of the mesh, the name `interior_eq` notwithstanding.  `Props/C05b.lean` has
  the harmonicity of affine functions; worked instances of this file are in `Props/Examples.lean` (`ex_interior_eq`).
-/
namespace LapyVerif.Props.C05
open Poisson

theorem scatter_cons (a : Nat) (l : List Nat) (y : ℝ) (ys : List ℝ) (i : Nat) :
    scatter (a :: l) (y :: ys) i = (if a = i then y else 0) + scatter l ys i := by
  simp only [scatter, List.sum_map_filter, List.zip_cons_cons, List.map_cons, List.sum_cons, beq_iff_eq]

theorem scatter_of_not_mem (didx : List Nat) (ddat : List ℝ) (i : Nat) (h : i ∉ didx) : scatter didx ddat i = 0 := by
  have : ∀ p ∈ didx.zip ddat, ¬ (p.1 == i) = true := fun p hp hpa =>
    h (beq_iff_eq.mp hpa ▸ (List.of_mem_zip hp).1)
  simp [scatter, List.filter_eq_nil_iff.mpr this]

/-- the Dirichlet vector: prescribed value on `didx`, zero elsewhere -/
theorem scatter_of_mem (didx : List Nat) (ddat : List ℝ) (hn : didx.Nodup) (hl : ddat.length = didx.length)
    (k : Nat) (hk : k < didx.length) : scatter didx ddat (didx[k]) = ddat.getD k 0 := by
  induction didx generalizing ddat k with
  | nil => simp at hk
  | cons a l ih =>
    cases ddat with
    | nil => simp at hl
    | cons y ys =>
      have hn' := List.nodup_cons.mp hn
      cases k with
      | zero => rw [List.getElem_cons_zero, scatter_cons, if_pos rfl, scatter_of_not_mem l ys a hn'.1, add_zero]; rfl
      | succ k =>
        have hk' : k < l.length := by simpa using hk
        rw [List.getElem_cons_succ, scatter_cons, if_neg fun h : a = l[k] => hn'.1 (h ▸ List.getElem_mem hk'), zero_add,
          ih ys hn'.2 (by simpa using hl) k hk']
        rfl

/-- the result as a function of the vertex index (the body of `Poisson.fill`) -/
noncomputable def xfun (dim : Nat) (didx : List Nat) (ddat : List ℝ) (xs : List ℝ) (i : Nat) : ℝ :=
  match didx.idxOf? i with
  | some k => ddat.getD k 0
  | none => match (freeIdx dim didx).idxOf? i with
    | some k => xs.getD k 0
    | none => 0

theorem fill_eq_xfun (dim : Nat) (didx : List Nat) (ddat xs : List ℝ) (i : Nat) (hi : i < dim) :
    (fill dim didx ddat (freeIdx dim didx) xs).getD i 0 = xfun dim didx ddat xs i := by
  unfold fill xfun
  rw [List.getD_eq_getElem?_getD, List.getElem?_map, List.getElem?_range hi]
  rfl

/-- **exactness at Dirichlet vertices**: the result takes exactly the prescribed values -/
theorem dirichlet_exact (dim : Nat) (didx : List Nat) (ddat xs : List ℝ) (hn : didx.Nodup)
    (k : Nat) (hk : k < didx.length) : xfun dim didx ddat xs (didx[k]) = ddat.getD k 0 := by
  simp [xfun, List.idxOf?_getElem hn k hk]

theorem freeIdx_nodup (dim : Nat) (didx : List Nat) : (freeIdx dim didx).Nodup :=
  List.Nodup.filter _ List.nodup_range

theorem mem_freeIdx (dim : Nat) (didx : List Nat) (i : Nat) : i ∈ freeIdx dim didx ↔ i < dim ∧ i ∉ didx := by
  simp [freeIdx]

/-- inside the index range the result is the Dirichlet vector plus the solver's vector spread over the kept vertices -/
theorem xfun_eq (dim : Nat) (didx : List Nat) (ddat xs : List ℝ) (hn : didx.Nodup) (hl : ddat.length = didx.length)
    (j : Nat) (hj : j < dim) :
    xfun dim didx ddat xs j = scatter didx ddat j + ((freeIdx dim didx).idxOf? j).elim 0 fun q => xs.getD q 0 := by
  by_cases hD : j ∈ didx
  · -- a Dirichlet vertex is not kept
    obtain ⟨k, hk, rfl⟩ := List.getElem_of_mem hD
    rw [dirichlet_exact dim didx ddat xs hn k hk, scatter_of_mem didx ddat hn hl k hk,
      List.idxOf?_eq_none_iff.mpr fun hm => ((mem_freeIdx dim didx _).mp hm).2 hD]
    exact (add_zero _).symm
  · obtain ⟨q, hq, rfl⟩ := List.getElem_of_mem ((mem_freeIdx dim didx j).mpr ⟨hj, hD⟩)
    rw [scatter_of_not_mem _ _ _ hD, List.idxOf?_getElem (freeIdx_nodup dim didx) q hq]
    simp [xfun, List.idxOf?_eq_none_iff.mpr hD, List.idxOf?_getElem (freeIdx_nodup dim didx) q hq]

/-- row `p` of the reduced matrix acts like row `free[p]` of the full one on a vector spread over the kept vertices -/
theorem mulVec_reduce (M : Coo ℝ) (free : List Nat) (hnd : free.Nodup) (y : Nat → ℝ) (p : Nat) (hp : p < free.length) :
    Coo.mulVec (reduce M free) y p = Coo.mulVec M (fun j => (free.idxOf? j).elim 0 y) free[p] := by
  induction M with
  | nil => rfl
  | cons e M ih =>
    rw [Coo.mulVec_cons, ← ih, reduce, List.filterMap_cons]
    cases hr : free.idxOf? e.1.1 with
    | none =>
      have : e.1.1 ≠ free[p] := fun h => by
        rw [h, List.idxOf?_getElem hnd p hp] at hr; cases hr
      simp only [if_neg this, zero_add]; rfl
    | some a =>
      obtain ⟨ha, hea, _⟩ := List.idxOf?_eq_some_iff.mp hr
      have hap : e.1.1 = free[p] ↔ a = p := by rw [← hea]; exact hnd.getElem_inj_iff
      cases hc : free.idxOf? e.1.2 with
      -- the column of `e` is not kept: the spread vector is `0` there and the triplet is dropped from `reduce`
      | none => simp only [Option.elim, mul_zero, ite_self, zero_add]; rfl
      | some b => simp only [Option.elim, hap]; exact Coo.mulVec_cons _ _ _ _

/-- **the equation at the kept vertices.**  If the solver output `xs` satisfies row `p` of the reduced system
    `reduce A free · xs = b` (the contract of the external sparse solve), then the full result satisfies
    `(A x)_i = (B (h − n))_i` at the kept vertex `i = free[p]`. -/
theorem interior_eq (A B : Coo ℝ) (dim : Nat) (h nvec : Nat → ℝ) (didx : List Nat) (ddat xs : List ℝ)
    (hn : didx.Nodup) (hl : ddat.length = didx.length) (hA : ∀ e ∈ A, e.1.2 < dim)
    (p : Nat) (hp : p < (freeIdx dim didx).length)
    (hsolve : Coo.mulVec (reduce A (freeIdx dim didx)) (fun q => xs.getD q 0) p
        = rhs A B h nvec (scatter didx ddat) true ((freeIdx dim didx)[p])) :
    Coo.mulVec A (xfun dim didx ddat xs) ((freeIdx dim didx)[p])
      = Coo.mulVec B (fun j => h j - nvec j) ((freeIdx dim didx)[p]) := by
  rw [Coo.mulVec_congr A _ (fun j => scatter didx ddat j + ((freeIdx dim didx).idxOf? j).elim 0 fun q => xs.getD q 0) _
      fun e he => xfun_eq dim didx ddat xs hn hl e.1.2 (hA e he), Coo.mulVec_add,
    ← mulVec_reduce A _ (freeIdx_nodup dim didx) _ p hp, hsolve]
  simp only [rhs, if_true]
  ring

/-- linearity of the right-hand side only: that the vector `poisson` returns is linear in `(h, n, d)` would also need
    uniqueness of the reduced solve, which is not proved -/
theorem rhs_linear (A B : Coo ℝ) (h h' nv nv' d d' : Nat → ℝ) (c : ℝ) (hasD : Bool) (i : Nat) :
    rhs A B (fun j => h j + c * h' j) (fun j => nv j + c * nv' j) (fun j => d j + c * d' j) hasD i
      = rhs A B h nv d hasD i + c * rhs A B h' nv' d' hasD i := by
  have lin : ∀ (M : Coo ℝ) (f g : Nat → ℝ), Coo.mulVec M (fun j => f j + c * g j) i = Coo.mulVec M f i + c * Coo.mulVec M g i :=
    fun M f g => by rw [Coo.mulVec_add, Coo.mulVec_smul]
  have e1 : (fun j => (h j + c * h' j) - (nv j + c * nv' j)) = fun j => (h j - nv j) + c * (h' j - nv' j) := by
    funext j; ring
  unfold rhs
  rw [e1, lin B, lin A]
  cases hasD
  · simp
  · simp; ring

/-- **`Solver.poisson` with Dirichlet data**: the returned vector takes exactly the prescribed values at the Dirichlet
    vertices and satisfies `(A x)_i = (B (h − n))_i` at every kept vertex.  The first two clauses do not use `hsolve`.
    `hsolve` is asked of every system `(a, b)`, singular `a` included; the statement with the contract for the one
    system that is handed over is `interior_eq`. -/
theorem run_spec (solve : Coo ℝ → List ℝ → List ℝ) (A B : Coo ℝ) (dim : Nat) (h : Nat → ℝ)
    (didx : List Nat) (ddat : List ℝ) (nLen : Nat) (nidx : List Nat) (ndat : List ℝ)
    (hn : didx.Nodup) (hl : ddat.length = didx.length) (hpos : 0 < didx.length) (hrange : ∀ j ∈ didx, j < dim)
    (hA : ∀ e ∈ A, e.1.2 < dim) (hchk : checkD 2 didx ddat.length = .ok ∧ checkN nLen nidx.length ndat.length = .ok)
    (hsolve : ∀ (a : Coo ℝ) (b : List ℝ) (p : Nat), p < b.length →
        Coo.mulVec a (fun q => (solve a b).getD q 0) p = b.getD p 0) :
    ∃ out, run solve A B dim h 2 didx ddat nLen nidx ndat = some out ∧
      (∀ k (hk : k < didx.length), out.getD (didx[k]) 0 = ddat.getD k 0) ∧
      (∀ i, i < dim → i ∉ didx →
        Coo.mulVec A (fun j => out.getD j 0) i
          = Coo.mulVec B (fun j => h j - (if nLen == 0 then (fun _ => (0 : ℝ)) else scatter nidx ndat) j) i) := by
  set nvec : Nat → ℝ := if nLen == 0 then (fun _ => (0 : ℝ)) else scatter nidx ndat with hnv
  set free := freeIdx dim didx with hfree
  set b := free.map (rhs A B h nvec (scatter didx ddat) true) with hb
  set xs := solve (reduce A free) b with hxs
  refine ⟨fill dim didx ddat free xs, ?_, ?_, ?_⟩
  · simp [run, system, hchk.1, hchk.2, hpos, hfree, hb, hxs, hnv]
  · intro k hk
    rw [fill_eq_xfun dim didx ddat xs _ (hrange _ (List.getElem_mem hk))]
    exact dirichlet_exact dim didx ddat xs hn k hk
  · intro i hi hiD
    have hmem : i ∈ free := (mem_freeIdx dim didx i).mpr ⟨hi, hiD⟩
    obtain ⟨p, hp, hpe⟩ := List.getElem_of_mem hmem
    have hcong : Coo.mulVec A (fun j => (fill dim didx ddat free xs).getD j 0) i = Coo.mulVec A (xfun dim didx ddat xs) i :=
      Coo.mulVec_congr A _ _ i fun e he => fill_eq_xfun dim didx ddat xs e.1.2 (hA e he)
    rw [hcong, ← hpe]
    apply interior_eq A B dim h nvec didx ddat xs hn hl hA p hp
    have hpb : p < b.length := by simpa [hb] using hp
    have := hsolve (reduce A free) b p hpb
    rw [this, hb, List.getD_eq_getElem?_getD, List.getElem?_map, List.getElem?_eq_getElem hp]
    rfl

end LapyVerif.Props.C05
