import LapyVerif.Lemmas.BridgeTac
import LapyVerif.Bridge.Tetra
import LapyVerif.Model.Measures
import LapyVerif.Generated.Measures
/-
  Bridge: the measure routines of `lapy/tria_mesh.py`, traced on the boundary of a generic tetrahedron
  (4 triangles, closed and oriented, so that `volume()` takes its main branch), are the model's.
  `tria_normals` is bridged at triangle 0 (`meas_normal`); of the four recorded length decisions (one per triangle) it uses the first.
-/
-- the closing `ring` runs only on entries that the traced code computes in another, algebraically equal form
set_option linter.unreachableTactic false
set_option linter.unusedTactic false
namespace LapyVerif.Bridge

theorem T4_closed : Topo.isClosed T4 = true := by decide
theorem T4_oriented : Topo.isOriented T4 = true := by decide

theorem meas_areas (v0 v1 v2 v3 : V3 ℝ) :
    Measures.triAreas (vtx4 v0 v1 v2 v3) T4 = Gen.Measures.areas v0 v1 v2 v3 := by
  simp only [Measures.triAreas, T4, List.map, vtx4_0, vtx4_1, vtx4_2, vtx4_3, Measures.heron, Measures.c, Gen.Measures.areas]
  v3_flat [Gen.Measures.areas_0, Gen.Measures.areas_1, Gen.Measures.areas_2, Gen.Measures.areas_3] <;>
    coo_entries <;> ring

theorem meas_area (v0 v1 v2 v3 : V3 ℝ) :
    Measures.area (vtx4 v0 v1 v2 v3) T4 = Gen.Measures.area v0 v1 v2 v3 := by
  simp only [Measures.area, meas_areas, Gen.Measures.areas, List.sum_cons, List.sum_nil, Gen.Measures.area,
    Gen.Measures.areas_0, Gen.Measures.areas_1, Gen.Measures.areas_2, Gen.Measures.areas_3]
  ring

theorem meas_volume (v0 v1 v2 v3 : V3 ℝ) :
    Measures.volume (vtx4 v0 v1 v2 v3) T4 = .ok (Gen.Measures.volume v0 v1 v2 v3) := by
  simp only [Measures.volume, T4_closed, T4_oriented, Bool.not_true, Bool.false_eq_true, if_false]
  congr 1
  v3_flat [Measures.volumeSum, T4, List.map, vtx4_0, vtx4_1, vtx4_2, vtx4_3, Measures.c, Gen.Measures.volume,
    List.sum_cons, List.sum_nil]
  ring

theorem meas_normal_nd (v0 v1 v2 v3 : V3 ℝ) (h : Gen.Measures.pc v0 v1 v2 v3) :
    ¬ (Real.sqrt (V3.normSq (V3.cross (v1 - v0) (v2 - v0))) < epsK) := by
  rw [epsK_real]
  have := h.1
  simpa [Gen.Measures.pc, V3.normSq, V3.dot] using this

theorem meas_normal (v0 v1 v2 v3 : V3 ℝ) (h : Gen.Measures.pc v0 v1 v2 v3) :
    (let n := Measures.triNormal v0 v1 v2; [n.x, n.y, n.z]) = Gen.Measures.normal0 v0 v1 v2 v3 := by
  have h' := meas_normal_nd v0 v1 v2 v3 h
  simp only [Measures.triNormal, Measures.guard1, sqrt_real, if_neg h', Gen.Measures.normal0]
  v3_flat [Gen.Measures.normal0_0, Gen.Measures.normal0_1, Gen.Measures.normal0_2] <;>
    coo_entries <;> ring

theorem meas_qualities (v0 v1 v2 v3 : V3 ℝ) :
    Measures.triQualities (vtx4 v0 v1 v2 v3) T4 = Gen.Measures.qualities v0 v1 v2 v3 := by
  simp only [Measures.triQualities, T4, List.map, vtx4_0, vtx4_1, vtx4_2, vtx4_3, Measures.triQuality, Measures.c,
    Gen.Measures.qualities]
  v3_flat [Gen.Measures.qualities_0, Gen.Measures.qualities_1, Gen.Measures.qualities_2, Gen.Measures.qualities_3] <;>
    coo_entries <;> ring

theorem meas_total (v0 v1 v2 v3 : V3 ℝ) :
    (Measures.centroid (vtx4 v0 v1 v2 v3) T4).2 = Gen.Measures.total v0 v1 v2 v3 := by
  v3_flat [Measures.centroid, T4, List.map, vtx4_0, vtx4_1, vtx4_2, vtx4_3, Measures.c, Gen.Measures.total, List.sum_cons,
    List.sum_nil]
  ring

/-! ### census: how many data-dependent decisions the tracer recorded (a branch added to the source changes the number) -/
theorem census_Measures_pcCount : Gen.Measures.pcCount = 4 := rfl

end LapyVerif.Bridge
