import LapyVerif.Props.C09
/- axiom audit of C09 -/
#print axioms LapyVerif.Props.C09.entry_adjSym
#print axioms LapyVerif.Props.C09.entry_adjDir
#print axioms LapyVerif.Props.C09.count_symKeys
#print axioms LapyVerif.Props.C09.count_dirKeys
#print axioms LapyVerif.Props.C09.isClosed_iff
#print axioms LapyVerif.Props.C09.isManifold_iff
#print axioms LapyVerif.Props.C09.isOriented_iff
#print axioms LapyVerif.Props.C09.mem_undirEdges
#print axioms LapyVerif.Props.C09.nodup_undirEdges
#print axioms LapyVerif.Props.C09.nnz_adjSym
#print axioms LapyVerif.Props.C09.nodup_usedVerts
#print axioms LapyVerif.Props.C09.mem_usedVerts
#print axioms LapyVerif.Props.C09.euler_spec
#print axioms LapyVerif.Props.C09.hasFree_iff
#print axioms LapyVerif.Props.C09.mem_neighbours
#print axioms LapyVerif.Props.C09.nodup_neighbours
#print axioms LapyVerif.Props.C09.length_vertexDegrees
#print axioms LapyVerif.Props.C09.vertexDegrees_spec
#print axioms LapyVerif.Props.C09.loops_errors
#print axioms LapyVerif.Props.C09.edges_error
#print axioms LapyVerif.Props.C09.isManifold_of_isOriented
#print axioms LapyVerif.Props.C09.edgeCount_eq_add
#print axioms LapyVerif.Props.C09.halfEdge_index_unique
#print axioms LapyVerif.Props.C09.edges_spec
#print axioms LapyVerif.Lemmas.loopsFrom_spec
#print axioms LapyVerif.Props.C09.loops_spec
#print axioms LapyVerif.Props.C09.boundaryLoops_spec
#print axioms LapyVerif.Lemmas.entry_map_const
#print axioms LapyVerif.Topo.isClosed_iff
#print axioms LapyVerif.Topo.isManifold_iff
#print axioms LapyVerif.Topo.isOriented_iff
#print axioms LapyVerif.Topo.count_symKeys_eq_add
#print axioms LapyVerif.Topo.isManifold_of_isOriented
#print axioms LapyVerif.Props.C09.entry_tid_eq
#print axioms LapyVerif.Props.C09.length_filter_zipIdx
