import LapyVerif.Model.Measures
/-
  Model of `map_tfunc_to_vfunc`, `map_vfunc_to_tfunc`, `smooth_vfunc` of `lapy/tria_mesh.py`
  (functions are lists of rows, one row of `K` per vertex / triangle, so multi-column input is covered).
  The in-place `smooth_`, which applies `smooth_vfunc` to the coordinates, is the `.smooth` case of `History.triEffect`.
-/
namespace LapyVerif
namespace Transfer
open V3

variable {K : Type} [Zero K] [Add K] [Sub K] [Mul K] [Div K] [Neg K] [NatCast K] [HasSqrt K]

def rowAdd (a b : List K) : List K := List.zipWith (· + ·) a b
def rowScale (c : K) (a : List K) : List K := a.map (c * ·)
def rowDiv (a : List K) (c : K) : List K := a.map (· / c)
def rowZero (k : Nat) : List K := List.replicate k 0

/-- `map_tfunc_to_vfunc(tfunc, weighted)`: scatter-add of (area-weighted) triangle rows to the three corners, `/ 3` -/
def t2v (nv : Nat) (vtx : Nat → V3 K) (ts : List Tri) (tf : List (List K)) (weighted : Bool) : List (List K) :=
  let cols := (tf.headD []).length
  let areas := Measures.triAreas vtx ts
  let rows := (tf.zip areas).map fun (r, a) => if weighted then r.map (· * a) else r
  (List.range nv).map fun i =>
    let acc := ((ts.zip rows).foldl (fun acc (τ, r) =>
      let acc := if τ.1 = i then rowAdd acc r else acc
      let acc := if τ.2.1 = i then rowAdd acc r else acc
      if τ.2.2 = i then rowAdd acc r else acc) (rowZero cols))
    rowDiv acc ((3 : Nat) : K)

/-- `map_vfunc_to_tfunc`: `sum((vfunc/3)[t], axis=1)` -/
def v2t (ts : List Tri) (vf : List (List K)) : List (List K) :=
  let third := vf.map fun r => rowDiv r ((3 : Nat) : K)
  let get := fun i => third.getD i []
  ts.map fun τ => rowAdd (rowAdd (get τ.1) (get τ.2.1)) (get τ.2.2)

/-- the column indices stored in row `i` of the binarised `adj_sym`, each once, ascending.  (The order in which the
    sparse product adds the terms of a row is the storage order; over an exact field it does not matter, the sort only
    fixes one.) -/
def rowNbrs (symKeys : List (Nat × Nat)) (i : Nat) : List Nat :=
  ((symKeys.eraseDups.filter fun k => k.1 == i).map (·.2)).mergeSort

/-- one application of the row-normalised operator of `smooth_vfunc`:
    `adj2[i,j] = 1*area_i`, `rowsum_i = Σ_j adj2[i,j]`, `w_ij = adj2[i,j] * (1/rowsum_i)`, `out_i = Σ_j w_ij f_j` -/
def smooth1 (symKeys : List (Nat × Nat)) (vareas : List K) (f : List (List K)) : List (List K) :=
  let cols := (f.headD []).length
  (List.range f.length).map fun i =>
    let nb := rowNbrs symKeys i
    let ai := vareas.getD i 0
    let rowsum := (nb.map fun _ => ((1 : Nat) : K) * ai).sum
    let inv := ((1 : Nat) : K) / rowsum
    nb.foldl (fun acc j => rowAdd acc (rowScale ((((1 : Nat) : K) * ai) * inv) (f.getD j []))) (rowZero cols)

/-- `smooth_vfunc(vfunc, n)`: one application, then `n-1` more (so `n = 0` also applies once) -/
def smooth (symKeys : List (Nat × Nat)) (vareas : List K) (f : List (List K)) (n : Nat) : List (List K) :=
  (List.range (n - 1)).foldl (fun acc _ => smooth1 symKeys vareas acc) (smooth1 symKeys vareas f)

end Transfer
end LapyVerif
