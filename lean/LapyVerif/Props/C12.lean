import Mathlib.Tactic.Ring
import Mathlib.Tactic.Linarith
import Mathlib.Algebra.Group.Nat.Even
import LapyVerif.Lemmas.ListSum
import LapyVerif.Lemmas.BridgeTac
import LapyVerif.Model.TetTopo
import LapyVerif.Lemmas.MeasureLemmas
import LapyVerif.Lemmas.TetLemmas
import LapyVerif.Lemmas.Count
/-
  C12 — `TetMesh.orient_`, `is_oriented`, `boundary_tria` (model: `Model/TetTopo.lean`).
  `is_oriented`: `isOriented_iff`.  `orient_`: `orient_spec`, `orient_oriented`, `orient_idempotent`.
  `boundary_tria`: which entries of the face table are returned, in which order and with which tetra index
  (`boundaryFaces_spec`, `boundaryFaces_sorted`, `bnd_owner`); every listed winding points away from the fourth vertex
  (`bnd_outward`, `bnd_outward_mesh`); the boundary surface encloses the volume of the mesh (`bnd_volume`) and is
  closed (`bnd_closed`).  `OppositeShared` (a shared face is listed with opposite windings by its two tetrahedra) is a
  hypothesis throughout: no theorem here derives it from the geometry, and nothing is stated about orientedness of
  the boundary surface or about the transfer of functions beyond the owner index.
-/

namespace LapyVerif.Props.C12
open V3 TetTopo TetLemmas

/-! ## `is_oriented` -/

/-- the empty mesh: `np.max` of an empty array raises in the code; the model answers `false` (first branch, vacuous `all`)
    although "all signed volumes positive" holds vacuously.  Hence the hypothesis `ts ≠ []` of `isOriented_iff`. -/
theorem isOriented_nil (vtx : Nat → V3 ℝ) : TetTopo.isOriented vtx [] = false := by
  simp [TetTopo.isOriented]

/-- **`is_oriented` is true iff all signed volumes are positive** (non-empty mesh).  Branch structure: the first branch
    (`max < 0`, answer `false`) cannot be taken when all volumes are positive and the mesh is non-empty; the second
    branch answers `true` exactly when all are positive; the last answers `false`. -/
theorem isOriented_iff (vtx : Nat → V3 ℝ) (ts : List Tet) (hne : ts ≠ []) :
    TetTopo.isOriented vtx ts = true ↔ ∀ τ ∈ ts, 0 < TetTopo.signedVol vtx τ := by
  unfold TetTopo.isOriented
  simp only [List.all_map, List.all_eq_true, Function.comp_apply, decide_eq_true_eq]
  constructor
  · intro h
    split_ifs at h with h1 h2
    · exact h2
  · intro h
    have hnot : ¬ ∀ x ∈ ts, TetTopo.signedVol vtx x < 0 := by
      intro hall
      obtain ⟨τ, hτ⟩ := List.exists_mem_of_ne_nil ts hne
      have := h τ hτ; have := hall τ hτ
      linarith
    rw [if_neg hnot, if_pos h]

/-! ## `orient_` -/

def swap12 (τ : Tet) : Tet := (τ.1, τ.2.2.1, τ.2.1, τ.2.2.2)

def tetVerts (τ : Tet) : List Nat := [τ.1, τ.2.1, τ.2.2.1, τ.2.2.2]

theorem signedVol_swap (vtx : Nat → V3 ℝ) (τ : Tet) :
    TetTopo.signedVol vtx (swap12 τ) = - TetTopo.signedVol vtx τ := by
  simp only [TetTopo.signedVol, swap12]; rw [cross_anticomm, dot_neg_right]

theorem swap12_verts (τ : Tet) : (tetVerts (swap12 τ)).Perm (tetVerts τ) := by
  simp only [tetVerts, swap12]
  exact List.Perm.cons _ (List.Perm.swap _ _ _)

/-- what `orient` does to one tetrahedron -/
noncomputable def orient1 (vtx : Nat → V3 ℝ) (τ : Tet) : Tet :=
  if TetTopo.signedVol vtx τ < 0 then swap12 τ else τ

theorem map_orient1_of_no_neg (vtx : Nat → V3 ℝ) (ts : List Tet) (h : ∀ τ ∈ ts, ¬ TetTopo.signedVol vtx τ < 0) :
    ts.map (orient1 vtx) = ts :=
  (List.map_congr_left fun τ hτ => if_neg (h τ hτ)).trans (List.map_id ts)

/-- `orient` in one piece, whichever branch is taken: every tetrahedron through `orient1`, and the number of negative
    ones -/
theorem orient_eq (vtx : Nat → V3 ℝ) (ts : List Tet) :
    TetTopo.orient vtx ts = (ts.map (orient1 vtx), ts.countP fun τ => decide (TetTopo.signedVol vtx τ < 0)) := by
  have hc : ((ts.map fun τ => decide (TetTopo.signedVol vtx τ < 0)).filter id).length
      = ts.countP (fun τ => decide (TetTopo.signedVol vtx τ < 0)) := by
    rw [List.countP_eq_length_filter, List.filter_map, List.length_map]; rfl
  unfold TetTopo.orient
  simp only [hc]
  split_ifs with h
  · rw [beq_iff_eq] at h
    rw [h, map_orient1_of_no_neg vtx ts fun τ hτ => by simpa using List.countP_eq_zero.mp h τ hτ]
  · congr 1
    rw [← List.map_prod_left_eq_zip, List.map_map]
    exact List.map_congr_left fun τ _ => by simp only [Function.comp_apply, orient1, swap12, decide_eq_true_eq]

theorem orient_fst (vtx : Nat → V3 ℝ) (ts : List Tet) : (TetTopo.orient vtx ts).1 = ts.map (orient1 vtx) :=
  congrArg Prod.fst (orient_eq vtx ts)

theorem orient_snd (vtx : Nat → V3 ℝ) (ts : List Tet) :
    (TetTopo.orient vtx ts).2 = ts.countP (fun τ => decide (TetTopo.signedVol vtx τ < 0)) :=
  congrArg Prod.snd (orient_eq vtx ts)

/-- **specification of `orient_`**: same number of tetrahedra in the same order; tetrahedron `k` is untouched unless its
    signed volume is negative, in which case its vertices 1 and 2 are swapped; the returned number is the number of
    negative tetrahedra; every tetrahedron keeps its vertex set (even as a multiset). Coordinates are not an output of
    `orient` (the vertex array `vtx` is only read). -/
theorem orient_spec (vtx : Nat → V3 ℝ) (ts : List Tet) :
    (TetTopo.orient vtx ts).1.length = ts.length ∧
    (∀ k (h : k < ts.length) (h' : k < (TetTopo.orient vtx ts).1.length),
        (¬ TetTopo.signedVol vtx ts[k] < 0 → (TetTopo.orient vtx ts).1[k] = ts[k]) ∧
        (TetTopo.signedVol vtx ts[k] < 0 →
          (TetTopo.orient vtx ts).1[k] = (ts[k].1, ts[k].2.2.1, ts[k].2.1, ts[k].2.2.2)) ∧
        (tetVerts (TetTopo.orient vtx ts).1[k]).Perm (tetVerts ts[k])) ∧
    (TetTopo.orient vtx ts).2 = ts.countP (fun τ => decide (TetTopo.signedVol vtx τ < 0)) := by
  refine ⟨by rw [orient_fst, List.length_map], ?_, orient_snd vtx ts⟩
  intro k h h'
  have hk : (TetTopo.orient vtx ts).1[k] = orient1 vtx ts[k] := by
    simp only [orient_fst, List.getElem_map]
  rw [hk]
  refine ⟨fun hn => by simp only [orient1, if_neg hn], fun hn => by simp only [orient1, if_pos hn, swap12], ?_⟩
  unfold orient1
  split_ifs
  · exact swap12_verts _
  · exact List.Perm.refl _

theorem signedVol_orient1 (vtx : Nat → V3 ℝ) (τ : Tet) :
    TetTopo.signedVol vtx (orient1 vtx τ) = |TetTopo.signedVol vtx τ| := by
  unfold orient1
  split_ifs with h
  · rw [signedVol_swap, abs_of_neg h]
  · rw [abs_of_nonneg (not_lt.mp h)]

/-- **after `orient_`, `is_oriented` is true** if no tetrahedron is degenerate (and the mesh is not empty) -/
theorem orient_oriented (vtx : Nat → V3 ℝ) (ts : List Tet) (hne : ts ≠ [])
    (hnd : ∀ τ ∈ ts, TetTopo.signedVol vtx τ ≠ 0) :
    TetTopo.isOriented vtx (TetTopo.orient vtx ts).1 = true := by
  rw [orient_fst, isOriented_iff _ _ (by simpa using hne)]
  intro τ hτ
  obtain ⟨σ, hσ, rfl⟩ := List.mem_map.mp hτ
  rw [signedVol_orient1]
  exact abs_pos.mpr (hnd σ hσ)

theorem orient_of_no_neg (vtx : Nat → V3 ℝ) (ts : List Tet) (h : ∀ τ ∈ ts, ¬ TetTopo.signedVol vtx τ < 0) :
    TetTopo.orient vtx ts = (ts, 0) := by
  rw [orient_eq, map_orient1_of_no_neg vtx ts h, List.countP_eq_zero.mpr fun τ hτ => by simpa using h τ hτ]

/-- **`orient_` is idempotent**: a second call changes nothing and reports 0 flips (degenerate tetrahedra allowed) -/
theorem orient_idempotent (vtx : Nat → V3 ℝ) (ts : List Tet) :
    TetTopo.orient vtx (TetTopo.orient vtx ts).1 = ((TetTopo.orient vtx ts).1, 0) := by
  apply orient_of_no_neg
  rw [orient_fst]
  intro τ hτ
  obtain ⟨σ, _, rfl⟩ := List.mem_map.mp hτ
  rw [signedVol_orient1]
  exact not_lt.mpr (abs_nonneg _)

/-! ## `boundary_tria` -/

abbrev keyOf (e : Tri × Nat) : Nat × Nat × Nat := faceKey e.1

def keyCount (ts : List Tet) (k : Nat × Nat × Nat) : Nat := ((allFaces ts).map keyOf).count k

theorem allFaces_length (ts : List Tet) : (allFaces ts).length = 4 * ts.length := by
  simp only [allFaces, List.length_append, List.length_map, List.length_zipIdx]; omega

theorem sort3_spec (a b c : Nat) :
    [(sort3 a b c).1, (sort3 a b c).2.1, (sort3 a b c).2.2].Perm [a, b, c] ∧
    (sort3 a b c).1 ≤ (sort3 a b c).2.1 ∧ (sort3 a b c).2.1 ≤ (sort3 a b c).2.2 :=
  ⟨sort3_perm a b c, sort3_sorted a b c⟩

theorem uniq_iff_keyCount (ts : List Tet) (e : Tri × Nat) :
    uniq keyOf (allFaces ts) e = true ↔ keyCount ts (keyOf e) = 1 := by
  simp only [uniq, keyCount, cls_length_eq_count, beq_iff_eq]

theorem mem_boundaryFaces_iff (ts : List Tet) (e : Tri × Nat) :
    e ∈ boundaryFaces ts ↔ e ∈ allFaces ts ∧ keyCount ts (keyOf e) = 1 := by
  rw [(boundaryFaces_perm ts).mem_iff, List.mem_filter]
  exact and_congr_right fun _ => uniq_iff_keyCount ts e

/-- **the index stored with a boundary face is the index of a tetrahedron that has this face** (in the table's
    winding) — this is what hands a per-tetrahedron function value to the face -/
theorem bnd_owner (ts : List Tet) (f : Tri) (k : Nat) (h : (f, k) ∈ boundaryFaces ts) :
    ∃ hk : k < ts.length, f ∈ tetFaces ts[k] :=
  mem_allFaces.mp ((mem_boundaryFaces_iff ts (f, k)).mp h).1

/-- the boundary faces are listed in the lexicographic order of their sorted triples (`np.unique(axis=0)`) -/
theorem boundaryFaces_sorted (ts : List Tet) :
    (boundaryFaces ts).Pairwise (fun a b => lex3 (keyOf a) (keyOf b) = true) := by
  rw [boundaryFaces_eq]
  exact List.pairwise_mergeSort (le := fun a b : Tri × Nat => lex3 (keyOf a) (keyOf b))
    (fun a b c => lex3_trans _ _ _) (fun a b => lex3_total _ _) _

/-- **specification of `boundary_tria`**.
    * every boundary entry is an entry of the face table;
    * an entry of the face table is a boundary entry iff its key occurs exactly once among the `4·|ts|` faces —
      equivalently, iff no other *position* of the table carries the same key;
    * no two boundary entries have the same key (each boundary face is listed once). -/
theorem boundaryFaces_spec (ts : List Tet) :
    (∀ e ∈ boundaryFaces ts, e ∈ allFaces ts) ∧
    (∀ e ∈ allFaces ts, e ∈ boundaryFaces ts ↔ keyCount ts (keyOf e) = 1) ∧
    (∀ i (hi : i < (allFaces ts).length), (allFaces ts)[i] ∈ boundaryFaces ts ↔
        ∀ j (hj : j < (allFaces ts).length), keyOf (allFaces ts)[j] = keyOf (allFaces ts)[i] → j = i) ∧
    ((boundaryFaces ts).map keyOf).Nodup := by
  refine ⟨fun e he => ((mem_boundaryFaces_iff ts e).mp he).1,
    fun e he => by rw [mem_boundaryFaces_iff]; exact and_iff_right he, ?_, ?_⟩
  · intro i hi
    rw [mem_boundaryFaces_iff, keyCount, and_iff_right (List.getElem_mem hi)]
    exact count_map_getElem_eq_one_iff keyOf _ i hi
  · exact ((boundaryFaces_perm ts).map keyOf).nodup_iff.mpr (nodup_map_filter_uniq keyOf (allFaces ts))

theorem boundaryFaces_nodup (ts : List Tet) : (boundaryFaces ts).Nodup :=
  List.Nodup.of_map _ (boundaryFaces_spec ts).2.2.2

/-- the vertex opposite to each face of `tetFaces`, in the same order (the same list as `tetVerts`) -/
def tetOpposite (τ : Tet) : List Nat := [τ.1, τ.2.1, τ.2.2.1, τ.2.2.2]

/-- `normal(p,q,r) · (o - p)`: positive iff `o` lies on the side the winding's normal points to -/
def sideOf (vtx : Nat → V3 ℝ) (f : Tri) (o : Nat) : ℝ :=
  dot (cross (vtx f.2.1 - vtx f.1) (vtx f.2.2 - vtx f.1)) (vtx o - vtx f.1)

/-- the origin-cone term of `TriaMesh.volume()` for one triangle (six times the signed volume of the cone) -/
def cone (vtx : Nat → V3 ℝ) (f : Tri) : ℝ :=
  dot (vtx f.1) (cross (vtx f.2.1 - vtx f.1) (vtx f.2.2 - vtx f.1))

theorem sideOf_eq (vtx : Nat → V3 ℝ) (τ : Tet) :
    sideOf vtx (τ.2.2.2, τ.2.1, τ.2.2.1) τ.1 = - TetTopo.signedVol vtx τ ∧
    sideOf vtx (τ.2.2.1, τ.1, τ.2.2.2) τ.2.1 = - TetTopo.signedVol vtx τ ∧
    sideOf vtx (τ.2.1, τ.2.2.2, τ.1) τ.2.2.1 = - TetTopo.signedVol vtx τ ∧
    sideOf vtx (τ.1, τ.2.2.1, τ.2.1) τ.2.2.2 = - TetTopo.signedVol vtx τ := by
  v3_flat [sideOf, TetTopo.signedVol]; and_intros <;> ring

/-- **the listed winding of every face of a positively oriented tetrahedron points away from the fourth vertex** -/
theorem bnd_outward (vtx : Nat → V3 ℝ) (τ : Tet) (h : 0 < TetTopo.signedVol vtx τ) :
    ∀ i (hi : i < 4), sideOf vtx ((tetFaces τ)[i]'(by simpa [tetFaces] using hi))
        ((tetOpposite τ)[i]'(by simpa [tetOpposite] using hi)) < 0 := by
  obtain ⟨h0, h1, h2, h3⟩ := sideOf_eq vtx τ
  intro i hi
  match i, hi with
  | 0, _ | 1, _ | 2, _ | 3, _ =>
    simp only [tetFaces, tetOpposite, List.getElem_cons_succ, List.getElem_cons_zero]; linarith

theorem bnd_outward' (vtx : Nat → V3 ℝ) (a b c d : Nat) (h : 0 < TetTopo.signedVol vtx (a, b, c, d)) :
    dot (cross (vtx b - vtx d) (vtx c - vtx d)) (vtx a - vtx d) < 0 ∧
    dot (cross (vtx a - vtx c) (vtx d - vtx c)) (vtx b - vtx c) < 0 ∧
    dot (cross (vtx d - vtx b) (vtx a - vtx b)) (vtx c - vtx b) < 0 ∧
    dot (cross (vtx c - vtx a) (vtx b - vtx a)) (vtx d - vtx a) < 0 := by
  obtain ⟨h0, h1, h2, h3⟩ := sideOf_eq vtx (a, b, c, d)
  simp only [sideOf] at h0 h1 h2 h3
  refine ⟨?_, ?_, ?_, ?_⟩ <;> linarith

/-- **for an oriented mesh every boundary face is wound so that its normal points away from the remaining vertex of
    the tetrahedron that owns it** (outward normal) -/
theorem bnd_outward_mesh (vtx : Nat → V3 ℝ) (ts : List Tet) (ho : TetTopo.isOriented vtx ts = true)
    (f : Tri) (k : Nat) (h : (f, k) ∈ boundaryFaces ts) :
    ∃ (hk : k < ts.length) (i : Nat) (hi : i < 4),
      f = (tetFaces ts[k])[i]'(by simpa [tetFaces] using hi) ∧
      sideOf vtx f ((tetOpposite ts[k])[i]'(by simpa [tetOpposite] using hi)) < 0 := by
  obtain ⟨hk, hmem⟩ := bnd_owner ts f k h
  have hne : ts ≠ [] := by rintro rfl; simp at hk
  have hpos := (isOriented_iff vtx ts hne).mp ho ts[k] (List.getElem_mem hk)
  obtain ⟨i, hi, hfi⟩ := List.getElem_of_mem hmem
  have hi4 : i < 4 := by simpa [tetFaces] using hi
  exact ⟨hk, i, hi4, hfi.symm, hfi ▸ bnd_outward vtx ts[k] hpos i hi4⟩

/-- **divergence theorem on one tetrahedron**: the origin-cone terms of its four listed faces add up to its signed
    volume (whatever its orientation, degenerate or not) -/
theorem face_volume_sum (vtx : Nat → V3 ℝ) (τ : Tet) :
    ((tetFaces τ).map (cone vtx)).sum = TetTopo.signedVol vtx τ := by
  simp only [tetFaces, cone, dot_cross_sub_sub, TetTopo.signedVol, List.map_cons, List.map_nil, List.sum_cons, List.sum_nil]
  v3_flat; ring

theorem face_volume_sum' (vtx : Nat → V3 ℝ) (τ : Tet) :
    cone vtx (τ.2.2.2, τ.2.1, τ.2.2.1) + cone vtx (τ.2.2.1, τ.1, τ.2.2.2) + cone vtx (τ.2.1, τ.2.2.2, τ.1)
      + cone vtx (τ.1, τ.2.2.1, τ.2.1) = TetTopo.signedVol vtx τ := by
  simpa only [tetFaces, List.map_cons, List.map_nil, List.sum_cons, List.sum_nil, add_zero, add_assoc]
    using face_volume_sum vtx τ

theorem face_reverse (vtx : Nat → V3 ℝ) (p q r : Nat) :
    cone vtx (p, r, q) = - cone vtx (p, q, r) ∧ cone vtx (q, r, p) = cone vtx (p, q, r) ∧
    cone vtx (r, p, q) = cone vtx (p, q, r) := by
  -- a cone is the triple product of its corner positions, and that is alternating
  simp only [cone, dot_cross_sub_sub]
  exact ⟨by rw [cross_anticomm, dot_neg_right], (dot_cross_rot ..).symm, dot_cross_rot ..⟩

/-- `g` is `f` with two vertices exchanged (the three odd permutations of a triple) -/
def OddPerm (f g : Tri) : Prop :=
  g = (f.1, f.2.2, f.2.1) ∨ g = (f.2.2, f.2.1, f.1) ∨ g = (f.2.1, f.1, f.2.2)

instance (f g : Tri) : Decidable (OddPerm f g) := by unfold OddPerm; infer_instance

/-- every face (sorted triple) belongs to at most two tetrahedra -/
def FaceManifold (ts : List Tet) : Prop := ∀ e ∈ allFaces ts, keyCount ts (keyOf e) ≤ 2

instance (ts : List Tet) : Decidable (FaceManifold ts) := by unfold FaceManifold; infer_instance

/-- two entries of the face table with the same key have opposite windings (as is the case for the common face of two
    positively oriented tetrahedra lying on different sides of it) -/
def OppositeShared (ts : List Tet) : Prop :=
  (allFaces ts).Pairwise (fun a b => keyOf a = keyOf b → OddPerm a.1 b.1)

instance (ts : List Tet) : Decidable (OppositeShared ts) := by unfold OppositeShared; infer_instance

theorem oppositeShared_iff (ts : List Tet) :
    OppositeShared ts ↔ ∀ i j (hi : i < (allFaces ts).length) (hj : j < (allFaces ts).length), i < j →
      keyOf (allFaces ts)[i] = keyOf (allFaces ts)[j] → OddPerm (allFaces ts)[i].1 (allFaces ts)[j].1 :=
  List.pairwise_iff_getElem

theorem cone_oddPerm (vtx : Nat → V3 ℝ) (f g : Tri) (h : OddPerm f g) : cone vtx g = - cone vtx f := by
  obtain ⟨p, q, r⟩ := f
  rcases h with rfl | rfl | rfl
  · exact (face_reverse vtx p q r).1
  · exact ((face_reverse vtx p r q).2.1).trans (face_reverse vtx p q r).1
  · exact ((face_reverse vtx p r q).2.2).trans (face_reverse vtx p q r).1

theorem cls_length_le_two (ts : List Tet) (hm : FaceManifold ts) (k : Nat × Nat × Nat) :
    (cls keyOf (allFaces ts) k).length ≤ 2 := by
  rw [cls_length_eq_count]
  by_cases hk : k ∈ (allFaces ts).map keyOf
  · obtain ⟨e, he, rfl⟩ := List.mem_map.mp hk
    exact hm e he
  · rw [List.count_eq_zero_of_not_mem hk]; omega

/-- summing a weight of the faces tetrahedron by tetrahedron gives its sum over the boundary faces plus a remainder in
    `S`, if the weights of the two entries of every interior face add up to an element of `S` -/
theorem bnd_sum {M : Type} [AddCommMonoid M] (g : Tri → M) (S : M → Prop) (h0 : S 0)
    (hadd : ∀ a b, S a → S b → S (a + b)) (ts : List Tet) (hm : FaceManifold ts)
    (hpair : ∀ a b : Tri × Nat, keyOf a = keyOf b → [a, b].Sublist (allFaces ts) → S (g a.1 + g b.1)) :
    ∃ r, S r ∧
      (ts.map fun τ => ((tetFaces τ).map g).sum).sum = ((boundaryFaces ts).map fun e => g e.1).sum + r := by
  obtain ⟨r, hr, hsum⟩ := sum_eq_uniq_add_of_pairs keyOf (fun e : Tri × Nat => g e.1) S h0 hadd (allFaces ts)
    (cls_length_le_two ts hm) hpair
  exact ⟨r, hr, by rw [← allFaces_sum, hsum, ((boundaryFaces_perm ts).map _).sum_eq]⟩

/-- **the boundary's cone sum equals the sum of the tetrahedra's signed volumes** (interior faces cancel in pairs) -/
theorem bnd_volume_cone (vtx : Nat → V3 ℝ) (ts : List Tet) (hm : FaceManifold ts) (ho : OppositeShared ts) :
    ((boundaryFaces ts).map (fun e => cone vtx e.1)).sum = (ts.map (TetTopo.signedVol vtx)).sum := by
  obtain ⟨r, hr, h⟩ := bnd_sum (cone vtx) (· = 0) rfl (fun a b ha hb => by rw [ha, hb, add_zero]) ts hm
    (fun a b hk hs => by
      rw [cone_oddPerm vtx _ _ ((List.pairwise_pair.mp (ho.sublist hs)) hk), add_neg_cancel])
  rw [hr, add_zero] at h
  rw [← h]
  exact congrArg List.sum (List.map_congr_left fun τ _ => face_volume_sum vtx τ)

/-- **`TriaMesh.volume`'s divergence sum of the boundary surface equals the sum of the tetrahedra's volumes**
    (`signedVol/6` each) -/
theorem bnd_volume (vtx : Nat → V3 ℝ) (ts : List Tet) (hm : FaceManifold ts) (ho : OppositeShared ts) :
    Measures.volumeSum vtx ((boundaryFaces ts).map (·.1)) = (ts.map (fun τ => TetTopo.signedVol vtx τ / 6)).sum := by
  have h := bnd_volume_cone vtx ts hm ho
  rw [List.sum_map_div, ← h, Measures.volumeSum_eq, List.map_map]
  rfl

/-- the triangle `f` contains both `x` and `y` (for `x ≠ y`: it contains the undirected edge `{x,y}`) -/
def hasEdge (f : Tri) (x y : Nat) : Bool :=
  decide (x ∈ [f.1, f.2.1, f.2.2]) && decide (y ∈ [f.1, f.2.1, f.2.2])

def TetDistinct (τ : Tet) : Prop := (tetVerts τ).Nodup

instance (τ : Tet) : Decidable (TetDistinct τ) := by unfold TetDistinct; infer_instance

theorem hasEdge_of_key_eq {f g : Tri} (h : faceKey f = faceKey g) (x y : Nat) : hasEdge f x y = hasEdge g x y := by
  have hf := fun v => mem_sort3 f.1 f.2.1 f.2.2 v
  have hg := fun v => mem_sort3 g.1 g.2.1 g.2.2 v
  simp only [faceKey] at h
  simp only [h] at hf
  simp only [hasEdge, ← hf, ← hg]

theorem countP_ne_ne {α : Type} [BEq α] [LawfulBEq α] {l : List α} (hl : l.Nodup) {x y : α}
    (hx : x ∈ l) (hy : y ∈ l) (hxy : x ≠ y) : l.countP (fun v => v != x && v != y) + 2 = l.length := by
  have hx' : x ∈ l.erase y := (hl.mem_erase_iff).mpr ⟨hxy, hx⟩
  have := List.length_pos_of_mem hx'
  rw [List.countP_eq_length_filter, ← List.filter_filter, ← hl.erase_eq_filter, ← (hl.erase y).erase_eq_filter,
    List.length_erase_of_mem hx']
  rw [List.length_erase_of_mem hy] at this ⊢
  omega

/-- the face opposite to the vertex `v` of `τ` contains `x` and `y` iff both are vertices of `τ` other than `v`
    (`tetFaces τ` lists the faces in the order of their opposite vertices `tetOpposite τ`, the same list as `tetVerts τ`) -/
theorem hasEdge_tetFaces {τ : Tet} (hd : TetDistinct τ) (x y : Nat) :
    (tetFaces τ).map (fun f => hasEdge f x y)
      = (tetVerts τ).map (fun v => decide ((x ∈ tetVerts τ ∧ y ∈ tetVerts τ) ∧ v ≠ x ∧ v ≠ y)) := by
  obtain ⟨a, b, c, d⟩ := τ
  simp only [TetDistinct, tetVerts, List.nodup_cons, List.mem_cons, List.not_mem_nil, or_false, not_or,
    List.nodup_nil, and_true, not_false_eq_true] at hd
  simp only [tetFaces, tetVerts, hasEdge, List.map_cons, List.map_nil, List.cons.injEq, and_true, List.mem_cons,
    List.not_mem_nil, or_false, ← Bool.decide_and, decide_eq_decide]
  grind

/-- a tetrahedron with four different vertices has two faces at each of its edges: of its four vertices, two are
    different from both `x` and `y` -/
theorem tet_edge_count (τ : Tet) (hd : TetDistinct τ) (x y : Nat) (hxy : x ≠ y) :
    (tetFaces τ).countP (fun f => hasEdge f x y) = if x ∈ tetVerts τ ∧ y ∈ tetVerts τ then 2 else 0 := by
  have hc : (tetFaces τ).countP (fun f => hasEdge f x y)
      = ((tetFaces τ).map (fun f => hasEdge f x y)).countP id := by
    rw [List.countP_map]; rfl
  rw [hc, hasEdge_tetFaces hd, List.countP_map]
  split_ifs with h
  · have := countP_ne_ne hd h.1 h.2 hxy
    have h4 : (tetVerts τ).length = 4 := rfl
    have h2 : (tetVerts τ).countP (fun v => v != x && v != y) = 2 := by omega
    rw [← h2]
    exact List.countP_congr fun v _ => by simp [h]
  · exact List.countP_eq_zero.mpr fun v _ => by simp [h]

theorem tet_edge_even (τ : Tet) (hd : TetDistinct τ) (x y : Nat) (hxy : x ≠ y) :
    Even (((tetFaces τ).map (fun f => if hasEdge f x y then 1 else 0)).sum) := by
  rw [List.sum_map_ite_eq_countP, tet_edge_count τ hd x y hxy]
  split_ifs <;> decide

/-- **∂∂ = 0**: every undirected edge lies in an even number of boundary faces -/
theorem bnd_closed_edges (ts : List Tet) (hd : ∀ τ ∈ ts, TetDistinct τ) (hm : FaceManifold ts)
    (x y : Nat) (hxy : x ≠ y) :
    Even ((boundaryFaces ts).countP (fun e => hasEdge e.1 x y)) := by
  -- the two entries of an interior face contain the same edges
  obtain ⟨r, hr, h⟩ := bnd_sum (fun f => if hasEdge f x y then 1 else 0) Even (by decide) (fun a b ha hb => ha.add hb)
    ts hm (fun a b hk _ => by simp only [hasEdge_of_key_eq hk x y, ← two_mul]; exact even_two_mul _)
  have hall : Even (ts.map fun τ => ((tetFaces τ).map fun f => if hasEdge f x y then 1 else 0).sum).sum :=
    even_iff_two_dvd.mpr (List.dvd_sum fun n hn => by
      obtain ⟨τ, hτ, rfl⟩ := List.mem_map.mp hn
      exact even_iff_two_dvd.mp (tet_edge_even τ (hd τ hτ) x y hxy))
  rw [h, Nat.even_add] at hall
  rw [← List.sum_map_ite_eq_countP]
  exact hall.mpr hr

theorem symKeys_count (T : List Tri) (hd : ∀ f ∈ T, OrientMesh.TriDistinct f) (x y : Nat) :
    (Topo.symKeys T).count (x, y) = if x ≠ y then T.countP (fun f => hasEdge f x y) else 0 := by
  rw [show (if x ≠ y then T.countP (fun f => hasEdge f x y) else 0) = T.countP (fun f => decide (x ≠ y) && hasEdge f x y) by
    by_cases hxy : x = y <;> simp [hxy]]
  exact List.count_flatMap_eq_countP T _ _ _ fun f hf => (Topo.count_triSymKeys (hd f hf) x y).trans
    (if_congr (by simp [hasEdge, OrientLemmas.tverts]) rfl rfl)

/-- a triangle list whose triangles have three different vertices and in which every edge lies in an even number of
    triangles is closed in the sense of `TriaMesh.is_closed` (`1 not in adj_sym.data`) -/
theorem isClosed_of_even (T : List Tri) (hT : ∀ f ∈ T, OrientMesh.TriDistinct f)
    (heven : ∀ x y, x ≠ y → Even (T.countP (fun f => hasEdge f x y))) : Topo.isClosed T = true := by
  rw [Topo.isClosed_iff]
  intro k h1
  rw [symKeys_count T hT] at h1
  split_ifs at h1 with hxy
  have := heven k.1 k.2 hxy
  rw [h1] at this
  exact absurd this (by decide)

theorem tetFaces_distinct (τ : Tet) (hd : TetDistinct τ) (f : Tri) (hf : f ∈ tetFaces τ) : OrientMesh.TriDistinct f := by
  obtain ⟨a, b, c, d⟩ := τ
  simp only [TetDistinct, tetVerts, List.nodup_cons, List.mem_cons, List.not_mem_nil, or_false, not_or,
    List.nodup_nil, and_true, not_false_eq_true] at hd
  simp only [tetFaces, List.mem_cons, List.not_mem_nil, or_false] at hf
  rcases hf with rfl | rfl | rfl | rfl <;> simp only [OrientMesh.TriDistinct] <;> grind

/-- **the boundary surface of a face-manifold tetrahedral mesh is closed** (`TriaMesh.is_closed` answers `True`) -/
theorem bnd_closed (ts : List Tet) (hd : ∀ τ ∈ ts, TetDistinct τ) (hm : FaceManifold ts) :
    Topo.isClosed ((boundaryFaces ts).map (·.1)) = true := by
  apply isClosed_of_even
  · intro f hf
    obtain ⟨⟨f', k⟩, he, rfl⟩ := List.mem_map.mp hf
    obtain ⟨hk, hmem⟩ := bnd_owner ts f' k he
    exact tetFaces_distinct ts[k] (hd _ (List.getElem_mem hk)) f' hmem
  · intro x y hxy
    rw [List.countP_map]
    exact bnd_closed_edges ts hd hm x y hxy

section Examples

/-- the unit tetrahedron and its mirror image below the plane `z = 0` -/
noncomputable def vtx5 : Nat → V3 ℝ := fun i =>
  match i with
  | 0 => ⟨0, 0, 0⟩
  | 1 => ⟨1, 0, 0⟩
  | 2 => ⟨0, 1, 0⟩
  | 3 => ⟨0, 0, 1⟩
  | _ => ⟨0, 0, -1⟩

/-- two tetrahedra glued along the face `{0,1,2}` -/
def ts2 : List Tet := [(0, 1, 2, 3), (0, 2, 1, 4)]

theorem ts2_signedVol : ∀ τ ∈ ts2, TetTopo.signedVol vtx5 τ = 1 := by
  intro τ hτ
  simp only [ts2, List.mem_cons, List.not_mem_nil, or_false] at hτ
  rcases hτ with rfl | rfl <;> (simp only [TetTopo.signedVol, vtx5]; v3_flat; norm_num)

example : TetTopo.signedVol vtx5 (0, 1, 2, 3) = 1 := ts2_signedVol _ (by decide)

example : TetTopo.signedVol vtx5 (0, 2, 1, 4) = 1 := ts2_signedVol _ (by decide)

/-- a concrete positively oriented mesh: the hypotheses of `isOriented_iff`, `bnd_outward`, `bnd_outward_mesh` hold -/
theorem ts2_oriented : TetTopo.isOriented vtx5 ts2 = true := by
  rw [isOriented_iff _ _ (by decide)]
  intro τ hτ; rw [ts2_signedVol τ hτ]; norm_num

example : TetTopo.orient vtx5 [(0, 2, 1, 3)] = ([(0, 1, 2, 3)], 1) := by
  have hneg : TetTopo.signedVol vtx5 (0, 2, 1, 3) < 0 := by
    simp only [TetTopo.signedVol, vtx5]; v3_flat; norm_num
  apply Prod.ext
  · rw [orient_fst]; simp [orient1, hneg, swap12]
  · rw [orient_snd]; simp [hneg]

/-- the combinatorial hypotheses of `bnd_volume` and `bnd_closed` hold for the two-tetrahedra mesh -/
theorem ts2_faceManifold : FaceManifold ts2 := by decide
theorem ts2_oppositeShared : OppositeShared ts2 := by decide
theorem ts2_distinct : ∀ τ ∈ ts2, TetDistinct τ := by decide

example : FaceManifold ts2 := ts2_faceManifold
example : OppositeShared ts2 := ts2_oppositeShared
example : ∀ τ ∈ ts2, TetDistinct τ := ts2_distinct
example : allFaces ts2 = [((3, 1, 2), 0), ((4, 2, 1), 1), ((2, 0, 3), 0), ((1, 0, 4), 1), ((1, 3, 0), 0),
    ((2, 4, 0), 1), ((0, 2, 1), 0), ((0, 1, 2), 1)] := by decide
example : keyCount ts2 (0, 1, 2) = 2 ∧ keyCount ts2 (1, 2, 3) = 1 := by decide

/-- the six outer faces, in the lexicographic order of their sorted triples; the shared face `{0,1,2}` is gone -/
theorem ts2_boundary : boundaryFaces ts2 =
    [((1, 3, 0), 0), ((1, 0, 4), 1), ((2, 0, 3), 0), ((2, 4, 0), 1), ((3, 1, 2), 0), ((4, 2, 1), 1)] := by
  unfold boundaryFaces
  simp only
  -- the six faces with a unique key, keyed and in ascending order of the keys
  rw [List.mergeSort_eq_of_perm (fun a b c => lex3_trans a.1 b.1 c.1) (fun a b => lex3_total a.1 b.1)
    (m := [((0, 1, 3), (1, 3, 0), 0), ((0, 1, 4), (1, 0, 4), 1), ((0, 2, 3), (2, 0, 3), 0), ((0, 2, 4), (2, 4, 0), 1),
      ((1, 2, 3), (3, 1, 2), 0), ((1, 2, 4), (4, 2, 1), 1)]) (by decide) (by decide) (by decide)]
  rfl

example : ((3, 1, 2), 0) ∈ boundaryFaces ts2 ∧ ((0, 2, 1), 0) ∉ boundaryFaces ts2 := by
  simp only [mem_boundaryFaces_iff]; decide

/-- the conclusions of `bnd_closed` and `bnd_volume` on the example: the surface is closed and encloses `1/6 + 1/6` -/
example : Topo.isClosed ((boundaryFaces ts2).map (·.1)) = true :=
  bnd_closed ts2 ts2_distinct ts2_faceManifold

example : Measures.volumeSum vtx5 ((boundaryFaces ts2).map (·.1)) = 1 / 3 := by
  rw [bnd_volume vtx5 ts2 ts2_faceManifold ts2_oppositeShared]
  simp only [ts2, List.map_cons, List.map_nil, List.sum_cons, List.sum_nil,
    ts2_signedVol (0, 1, 2, 3) (by decide), ts2_signedVol (0, 2, 1, 4) (by decide)]
  norm_num

/-- without `OppositeShared` the volume statement fails: two copies of the same tetrahedron are face-manifold, have an
    empty boundary (cone sum `0`) but total signed volume `2` -/
example : FaceManifold [(0, 1, 2, 3), (0, 1, 2, 3)] ∧ ¬ OppositeShared [(0, 1, 2, 3), (0, 1, 2, 3)] := by decide

end Examples

end LapyVerif.Props.C12
