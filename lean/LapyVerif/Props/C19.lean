import LapyVerif.Props.C13
import LapyVerif.Props.C03
/-
  C19 — algebra behind `tria_mean_curvature_flow` / `tria_spherical_project`:
  normalisation to unit area and zero centroid (`Measures.normalize`), projection to the sphere of radius 100,
  the eigenfunction sign convention (axis flip), and the implicit flow step.
-/
namespace LapyVerif.Props.C19
open V3

/-- the cross-product area `½‖(v2−v1)×(v0−v2)‖` used by `centroid()` -/
noncomputable def areaC (vtx : Nat → V3 ℝ) (τ : Tri) : ℝ :=
  (1 / 2) * Real.sqrt (normSq (cross (vtx τ.2.2 - vtx τ.2.1) (vtx τ.1 - vtx τ.2.2)))

/-- `areaC` as a `fun`, so that `simp only` rewrites it under `map` -/
theorem areaC_def (vtx : Nat → V3 ℝ) : areaC vtx = fun τ =>
    (1 / 2) * Real.sqrt (normSq (cross (vtx τ.2.2 - vtx τ.2.1) (vtx τ.1 - vtx τ.2.2))) := rfl

theorem areaC_eq_triArea (vtx : Nat → V3 ℝ) (τ : Tri) :
    areaC vtx τ = Spec.triArea (vtx τ.1) (vtx τ.2.1) (vtx τ.2.2) := by
  have : cross (vtx τ.2.2 - vtx τ.2.1) (vtx τ.1 - vtx τ.2.2) = Spec.triN (vtx τ.1) (vtx τ.2.1) (vtx τ.2.2) :=
    FemTri.triCr_eq_triN _ _ _
  rw [areaC, this, Spec.triArea]; ring

/-- the total area returned by `centroid()` is the `area()` of the mesh (sum of the Heron areas) -/
theorem centroid_snd_eq_area (vtx : Nat → V3 ℝ) (ts : List Tri) : (Measures.centroid vtx ts).2 = Measures.area vtx ts :=
  congrArg Prod.snd (C13.centroid_eq vtx ts)

theorem shrink_isSimilarity (s : ℝ) (c : V3 ℝ) : IsSimilarity s (fun v => smul s (v - c)) := by
  intro a b c' d; simp only [dot_sub_left, dot_sub_right, dot_smul_left, dot_smul_right]; ring

/-- a weighted mean under `p ↦ s (p − c₀)`, the weights left alone -/
theorem sum_smul_affine {α : Type} (l : List α) (s : ℝ) (c0 : V3 ℝ) (w : α → ℝ) (p : α → V3 ℝ) :
    (l.map fun a => smul (w a) (smul s (p a - c0))).sum
      = smul s ((l.map fun a => smul (w a) (p a)).sum - smul (l.map w).sum c0) := by
  refine ext_dot fun u => ?_
  simp only [dot_sum, dot_smul_right, dot_sub_right, mul_sub, List.sum_map_sub, List.sum_map_mul_right,
    mul_left_comm _ s, List.sum_map_mul_left]

/-- **the centroid is equivariant, the area scales with `s²`** under `v ↦ s·(v − c₀)`, `s ≠ 0`, total area `≠ 0` -/
theorem centroid_affine (s : ℝ) (hs : s ≠ 0) (c0 : V3 ℝ) (vtx : Nat → V3 ℝ) (ts : List Tri)
    (ht : (Measures.centroid vtx ts).2 ≠ 0) :
    (Measures.centroid (fun i => smul s (vtx i - c0)) ts).1 = smul s ((Measures.centroid vtx ts).1 - c0) ∧
    (Measures.centroid (fun i => smul s (vtx i - c0)) ts).2 = s * s * (Measures.centroid vtx ts).2 := by
  have hA := C13.area_similarity (shrink_isSimilarity s c0) vtx ts
  rw [C13.centroid_eq vtx ts] at ht ⊢
  rw [C13.centroid_eq, hA]
  refine ⟨?_, rfl⟩
  -- the weights `area τ / area` are unchanged and add up to 1; every centre goes to `s (centre − c₀)`
  have hw : (ts.map fun τ => Spec.triArea (vtx τ.1) (vtx τ.2.1) (vtx τ.2.2) / Measures.area vtx ts).sum = 1 := by
    simp only [div_eq_mul_inv, List.sum_map_mul_right, ← C13.area_eq_sum]; exact mul_inv_cancel₀ ht
  have := sum_smul_affine ts s c0 (fun τ => Spec.triArea (vtx τ.1) (vtx τ.2.1) (vtx τ.2.2) / Measures.area vtx ts)
    (fun τ => smul (1 / 3) (vtx τ.1 + vtx τ.2.1 + vtx τ.2.2))
  rw [hw, V3.one_smul] at this
  refine (congrArg List.sum (List.map_congr_left fun τ _ => ?_)).trans this
  simp only [C13.weightedCentre, C13.triArea_similarity (shrink_isSimilarity s c0), mul_div_mul_left _ _ (mul_ne_zero hs hs)]
  congr 1
  refine ext_dot fun w => ?_
  simp only [dot_smul_right, dot_add_right, dot_sub_right]; ring

theorem normalize_eq (verts : List (V3 ℝ)) (vtx : Nat → V3 ℝ) (ts : List Tri) :
    Measures.normalize verts vtx ts = verts.map fun v =>
      smul (1 / Real.sqrt (Measures.centroid vtx ts).2) (v - (Measures.centroid vtx ts).1) := by
  simp only [Measures.normalize, Measures.c, sqrt_real]
  push_cast
  rfl

/-- **`normalize_`**: if the total area `A` is positive, every vertex goes to `(1/√A)(v − c)`; the new mesh has total area 1
    (also as `area()`) and centroid 0 -/
theorem normalize_spec (verts : List (V3 ℝ)) (vtx : Nat → V3 ℝ) (ts : List Tri) (hA : 0 < (Measures.centroid vtx ts).2) :
    let c := (Measures.centroid vtx ts).1
    let A := (Measures.centroid vtx ts).2
    Measures.normalize verts vtx ts = verts.map (fun v => smul (1 / Real.sqrt A) (v - c)) ∧
    (Measures.centroid (fun i => smul (1 / Real.sqrt A) (vtx i - c)) ts).2 = 1 ∧
    Measures.area (fun i => smul (1 / Real.sqrt A) (vtx i - c)) ts = 1 ∧
    (Measures.centroid (fun i => smul (1 / Real.sqrt A) (vtx i - c)) ts).1 = ⟨0, 0, 0⟩ := by
  intro c A
  have hs : (1 / Real.sqrt A) ≠ 0 := one_div_ne_zero (Real.sqrt_pos.mpr hA).ne'
  obtain ⟨h1, h2⟩ := centroid_affine (1 / Real.sqrt A) hs c vtx ts hA.ne'
  have harea : (Measures.centroid (fun i => smul (1 / Real.sqrt A) (vtx i - c)) ts).2 = 1 := by
    rw [h2]
    show 1 / Real.sqrt A * (1 / Real.sqrt A) * A = 1
    rw [div_mul_div_comm, one_mul, Real.mul_self_sqrt hA.le, div_mul_cancel₀ _ hA.ne']
  refine ⟨normalize_eq verts vtx ts, harea, ?_, ?_⟩
  · rw [← centroid_snd_eq_area, harea]
  · rw [h1]
    apply V3.ext' <;> simp [c]

theorem project_radius (v : V3 ℝ) (hv : normSq v ≠ 0) :
    normSq (smul (100 / Real.sqrt (normSq v)) v) = 100 * 100 := by
  have hpos : 0 < normSq v := lt_of_le_of_ne (V3.normSq_nonneg v) (Ne.symm hv)
  rw [V3.normSq_smul, div_mul_div_comm, Real.mul_self_sqrt hpos.le, div_mul_cancel₀ _ hv]

theorem project_radius_norm (v : V3 ℝ) (hv : normSq v ≠ 0) :
    Real.sqrt (normSq (smul (100 / Real.sqrt (normSq v)) v)) = 100 := by
  rw [project_radius v hv, Real.sqrt_mul_self (by norm_num)]

/-! ## the sign convention of the eigenfunctions (axis flip)

The flip is written three times.  `Flow.maxL … Flow.alignAxis` is the model; `lmax … axisFlip` below say the same
with `foldr` and `filter`, and `axis_flip`, `axis_flip_idem` are stated on them; `aligned1/2/3` (C19c) are the
form in which `Flow.embed` inlines the flip.  The facts are proved on the model in C19b (`flow_axis_flip`,
`flow_alignAxis_idem`) and carried to the definitions here by `maxL_eq_lmax`, `minL_eq_lmin`, `axisDiff_eq`,
`alignAxis_eq`; C19c proves the flip of `aligned*` on its own (`poles_neg`, `flip_axis`). -/

/-- maximum / minimum of a list (of an empty list: 0) -/
noncomputable def lmax (e : List ℝ) : ℝ := e.foldr max (e.headD 0)
noncomputable def lmin (e : List ℝ) : ℝ := e.foldr min (e.headD 0)

noncomputable def mean (l : List ℝ) : ℝ := l.sum / (l.length : ℝ)

/-- mean position of the vertices where the eigenfunction exceeds half its maximum / is below half its minimum -/
noncomputable def hiMean (e p : List ℝ) : ℝ :=
  mean (((e.zip p).filter fun q => decide (q.1 > lmax e / 2)).map (·.2))
noncomputable def loMean (e p : List ℝ) : ℝ :=
  mean (((e.zip p).filter fun q => decide (q.1 < lmin e / 2)).map (·.2))

/-- the conditional flip `if cmax < cmin: e = −e` -/
noncomputable def axisFlip (e p : List ℝ) : List ℝ := if hiMean e p < loMean e p then e.map Neg.neg else e

/-! ## the implicit flow step `(M + step·A₀) V' = M V` -/

/-- **a coordinate function annihilated by `A₀` is a fixed point of the step** (e.g. constants, C01) -/
theorem flow_step_fixed (step : ℝ) (A0 M : Coo ℝ) (V : Nat → ℝ) (h0 : ∀ i, Coo.mulVec A0 V i = 0) :
    ∀ i, Coo.mulVec (Heat.heatMat step A0 M) V i = Coo.mulVec M V i := by
  intro i
  rw [Coo.mulVec_heatMat, h0 i, mul_zero, add_zero]

/-- **`M + step·A₀` is positive wherever `M` is**, for `A₀ ≥ 0`, `step ≥ 0`.  With `M > 0` on the vectors not vanishing on
    `range n` this is positive definiteness (`flow_step_unique`); for the lumped mass matrix of the model, whose form is
    positive at `f ≠ 0` on a corner of some triangle, it is `flow_system_pd` (C19b). -/
theorem flow_mass_pd (step : ℝ) (A0 M : Coo ℝ) (f : Nat → ℝ) (hA : 0 ≤ Coo.form A0 f f) (hM : 0 < Coo.form M f f)
    (hstep : 0 ≤ step) : 0 < Coo.form (Heat.heatMat step A0 M) f f := by
  rw [Coo.form_heatMat]
  exact add_pos_of_pos_of_nonneg hM (mul_nonneg hstep hA)

theorem flow_step_unique (step : ℝ) (A0 M : Coo ℝ) (n : Nat) (hA : ∀ f, 0 ≤ Coo.form A0 f f)
    (hM : ∀ f : Nat → ℝ, (∃ i < n, f i ≠ 0) → 0 < Coo.form M f f) (hstep : 0 ≤ step)
    (y z b : Nat → ℝ) (hy : ∀ i, Coo.mulVec (Heat.heatMat step A0 M) y i = b i)
    (hz : ∀ i, Coo.mulVec (Heat.heatMat step A0 M) z i = b i) : ∀ i < n, y i = z i :=
  Coo.unique_of_pd _ n (fun f hf => flow_mass_pd step A0 M f (hA f) (hM f hf) hstep) y z b hy hz

/-- a diagonal triplet list with positive values: the form is a sum of terms `d·f²` -/
theorem diag_form_pos (M : Coo ℝ) (hd : ∀ e ∈ M, e.1.1 = e.1.2) (hp : ∀ e ∈ M, 0 < e.2) (f : Nat → ℝ) :
    0 ≤ Coo.form M f f ∧ ((∃ e ∈ M, f e.1.1 ≠ 0) → 0 < Coo.form M f f) := by
  have hnn : ∀ x ∈ M.map (fun e : (Nat × Nat) × ℝ => f e.1.1 * e.2 * f e.1.2), 0 ≤ x := by
    intro x hx
    obtain ⟨e, he, rfl⟩ := List.mem_map.mp hx
    rw [← hd e he, mul_right_comm]
    exact mul_nonneg (mul_self_nonneg _) (hp e he).le
  refine ⟨List.sum_nonneg hnn, fun ⟨e, he, hfe⟩ =>
    lt_of_lt_of_le ?_ (List.single_le_sum hnn _ (List.mem_map.mpr ⟨e, he, rfl⟩))⟩
  rw [← hd e he, mul_right_comm]
  exact mul_pos (mul_self_pos.mpr hfe) (hp e he)

theorem diag_pd (n : Nat) (d : Nat → ℝ) (hd : ∀ i < n, 0 < d i) (f : Nat → ℝ) (hf : ∃ i < n, f i ≠ 0) :
    0 < Coo.form ((List.range n).map fun i => ((i, i), d i)) f f := by
  obtain ⟨i, hi, hne⟩ := hf
  refine (diag_form_pos _ ?_ ?_ f).2 ⟨((i, i), d i), List.mem_map.mpr ⟨i, List.mem_range.mpr hi, rfl⟩, hne⟩
  · intro e he
    obtain ⟨j, _, rfl⟩ := List.mem_map.mp he
    rfl
  · intro e he
    obtain ⟨j, hj, rfl⟩ := List.mem_map.mp he
    exact hd j (List.mem_range.mp hj)

section Examples

/-- a mesh of positive area: the unit right triangle -/
noncomputable def vtxT : Nat → V3 ℝ := vtx3 ⟨0, 0, 0⟩ ⟨1, 0, 0⟩ ⟨0, 1, 0⟩

theorem ex_area : (Measures.centroid vtxT [(0, 1, 2)]).2 = 1 / 2 := by
  rw [centroid_snd_eq_area, C13.area_eq_sum]
  exact (add_zero _).trans Spec.triArea_unit

example : Measures.area (fun i => smul (1 / Real.sqrt (Measures.centroid vtxT [(0, 1, 2)]).2)
      (vtxT i - (Measures.centroid vtxT [(0, 1, 2)]).1)) [(0, 1, 2)] = 1 :=
  (normalize_spec [] vtxT [(0, 1, 2)] (by rw [ex_area]; norm_num)).2.2.1

example : normSq (smul (100 / Real.sqrt (normSq (⟨3, 4, 0⟩ : V3 ℝ))) ⟨3, 4, 0⟩) = 100 * 100 :=
  project_radius _ (by v3_flat; norm_num)

theorem ex_axisFlip : axisFlip [1, -1] [0, 5] = [-1, 1] := by
  have h1 : hiMean [1, -1] [0, 5] = 0 := by norm_num [hiMean, lmax, mean, List.filter_cons]
  have h2 : loMean [1, -1] [0, 5] = 5 := by norm_num [loMean, lmin, mean, List.filter_cons]
  simp [axisFlip, h1, h2]

example : axisFlip [1, -1] [0, 5] = [-1, 1] := ex_axisFlip

theorem ex_lmax : lmax [1, -3, 2] = 2 ∧ lmin [1, -3, 2] = -3 := by
  constructor <;> simp [lmax, lmin] <;> norm_num

example : lmax [1, -3, 2] = 2 ∧ lmin [1, -3, 2] = -3 := ex_lmax

example (f : Nat → ℝ) (hf : ∃ i < 2, f i ≠ 0) :
    0 < Coo.form (Heat.heatMat 0.5 C03.exA ((List.range 2).map fun i => ((i, i), (i : ℝ) + 1))) f f :=
  flow_mass_pd 0.5 C03.exA _ f (C03.exA_psd f) (diag_pd 2 _ (fun i _ => by positivity) f hf) (by norm_num)

example (i : Nat) : Coo.mulVec (Heat.heatMat 0.5 C03.exA C03.exB) C03.exY i = Coo.mulVec C03.exB C03.exY i :=
  flow_step_fixed 0.5 C03.exA C03.exB C03.exY (fun i => by simpa using C03.exY_eig i) i

end Examples

end LapyVerif.Props.C19
