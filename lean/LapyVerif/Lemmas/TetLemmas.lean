import Mathlib.Algebra.BigOperators.Group.List.Basic
import LapyVerif.Model.TetTopo
import LapyVerif.Lemmas.ListAux
/-
  For C12: `TetTopo.sort3`, `allFaces`, `boundaryFaces`, and the general lemmas on key classes (`cls`, `uniq`) that the
  boundary sums rest on.
-/
namespace LapyVerif.TetLemmas
open TetTopo

theorem sort3_sorted (a b c : Nat) :
    (sort3 a b c).1 ≤ (sort3 a b c).2.1 ∧ (sort3 a b c).2.1 ≤ (sort3 a b c).2.2 := by
  simp only [sort3]; grind

theorem sort3_of_le {a b c : Nat} (h1 : a ≤ b) (h2 : b ≤ c) : sort3 a b c = (a, b, c) := by
  simp only [sort3, Nat.min_eq_left h2, Nat.min_eq_left h1, Nat.max_eq_right h2,
    Nat.max_eq_right (Nat.le_trans h1 h2), Prod.mk.injEq, true_and, and_true]
  omega

theorem sort3_swap12 (a b c : Nat) : sort3 a b c = sort3 b a c := by
  simp only [sort3, Nat.min_left_comm a b c, Nat.max_left_comm a b c, Nat.add_comm a b]

theorem sort3_swap23 (a b c : Nat) : sort3 a b c = sort3 a c b := by
  simp only [sort3, Nat.min_comm b c, Nat.max_comm b c, Nat.add_right_comm a b c]

/-- `sort3` is symmetric in its arguments and the identity on an ascending triple, so in each of the six possible
    orders of `a, b, c` it returns them in that order -/
theorem sort3_perm (a b c : Nat) :
    [(sort3 a b c).1, (sort3 a b c).2.1, (sort3 a b c).2.2].Perm [a, b, c] := by
  rcases Nat.le_total a b with hab | hba <;> rcases Nat.le_total b c with hbc | hcb
  · rw [sort3_of_le hab hbc]
  · rcases Nat.le_total a c with hac | hca
    · rw [sort3_swap23 a b c, sort3_of_le hac hcb]
      exact .cons a (.swap b c [])
    · rw [sort3_swap23 a b c, sort3_swap12 a c b, sort3_of_le hca hab]
      exact List.perm_append_comm (l₁ := [c]) (l₂ := [a, b])
  · rcases Nat.le_total a c with hac | hca
    · rw [sort3_swap12 a b c, sort3_of_le hba hac]
      exact .swap a b [c]
    · rw [sort3_swap12 a b c, sort3_swap23 b a c, sort3_of_le hbc hca]
      exact List.perm_append_comm (l₁ := [b, c]) (l₂ := [a])
  · rw [sort3_swap12 a b c, sort3_swap23 b a c, sort3_swap12 b c a, sort3_of_le hcb hba]
    exact List.reverse_perm [a, b, c]

theorem mem_sort3 (a b c v : Nat) :
    v ∈ [(sort3 a b c).1, (sort3 a b c).2.1, (sort3 a b c).2.2] ↔ v ∈ [a, b, c] :=
  (sort3_perm a b c).mem_iff

theorem lex3_trans (a b c : Nat × Nat × Nat) (h1 : lex3 a b = true) (h2 : lex3 b c = true) : lex3 a c = true := by
  simp only [lex3, Bool.or_eq_true, decide_eq_true_eq, Bool.and_eq_true, beq_iff_eq] at *
  omega

theorem lex3_total (a b : Nat × Nat × Nat) : (lex3 a b || lex3 b a) = true := by
  simp only [lex3, Bool.or_eq_true, decide_eq_true_eq, Bool.and_eq_true, beq_iff_eq]
  omega

/-- the four faces of a tetrahedron in the winding of the code's table `[3,1,2],[2,0,3],[1,3,0],[0,2,1]` -/
def tetFaces (τ : Tet) : List Tri :=
  [(τ.2.2.2, τ.2.1, τ.2.2.1), (τ.2.2.1, τ.1, τ.2.2.2), (τ.2.1, τ.2.2.2, τ.1), (τ.1, τ.2.2.1, τ.2.1)]

/-- the sorted vertex triple of a face: the key `boundary_tria` uses to recognise equal faces -/
def faceKey (f : Tri) : Nat × Nat × Nat := sort3 f.1 f.2.1 f.2.2

/-- the face table lists, block by block, what `tetFaces` lists tetrahedron by tetrahedron -/
theorem allFaces_perm (ts : List Tet) :
    (allFaces ts).Perm (ts.zipIdx.flatMap fun x => (tetFaces x.1).map fun f => (f, x.2)) := by
  simp only [allFaces, List.map_eq_flatMap]
  exact ((((List.flatMap_append_perm _ _ _).append_right _).trans (List.flatMap_append_perm _ _ _)).append_right _).trans
    (List.flatMap_append_perm _ _ _)

theorem mem_allFaces {ts : List Tet} {f : Tri} {k : Nat} :
    (f, k) ∈ allFaces ts ↔ ∃ h : k < ts.length, f ∈ tetFaces ts[k] := by
  rw [(allFaces_perm ts).mem_iff, List.mem_flatMap]
  constructor
  · rintro ⟨⟨τ, k'⟩, hx, hf⟩
    obtain ⟨g, hg, he⟩ := List.mem_map.1 hf
    obtain ⟨hk, rfl⟩ := List.getElem?_eq_some_iff.1 (List.mk_mem_zipIdx_iff_getElem?.1 hx)
    cases he
    exact ⟨hk, hg⟩
  · rintro ⟨hk, hf⟩
    exact ⟨(ts[k], k), List.mk_mem_zipIdx_iff_getElem?.2 (List.getElem?_eq_getElem hk), List.mem_map_of_mem hf⟩

section Unique
variable {α κ : Type} [BEq κ] [LawfulBEq κ] (key : α → κ)

/-- `cls key l k`: the elements of `l` with key `k`; `uniq key l e`: the key of `e` occurs once in `l`.  The boundary
    of a tetrahedral mesh is the `uniq` part of its face table, and its sums are taken class by class. -/
def cls (l : List α) (k : κ) : List α := l.filter (fun e => key e == k)

def uniq (l : List α) (e : α) : Bool := (cls key l (key e)).length == 1

omit [LawfulBEq κ] in
theorem cls_length_eq_count (l : List α) (k : κ) : (cls key l k).length = (l.map key).count k := by
  rw [List.count_eq_length_filter, List.filter_map, List.length_map]; rfl

theorem nodup_map_filter_uniq (l : List α) : ((l.filter (uniq key l)).map key).Nodup := by
  rw [List.Nodup, List.pairwise_map, List.pairwise_iff_forall_sublist]
  intro a b hab heq
  -- the key of `a` is unique, so no two entries of `l` lie in its class; `a` and `b` would
  have hu : (cls key l (key a)).length ≤ 1 := by
    have := (List.mem_filter.mp (hab.subset List.mem_cons_self)).2
    simp only [uniq, beq_iff_eq] at this
    omega
  exact List.pairwise_iff_forall_sublist.1 (List.length_filter_le_one_iff.1 hu) (hab.trans List.filter_sublist)
    ⟨by simp, by simp [heq]⟩

end Unique

theorem count_map_getElem_eq_one_iff {α β : Type} [BEq β] [LawfulBEq β] (f : α → β) (l : List α) (i : Nat)
    (hi : i < l.length) :
    (l.map f).count (f l[i]) = 1 ↔ ∀ j (hj : j < l.length), f l[j] = f l[i] → j = i := by
  -- the value occurs (at `i`), so it occurs once iff no two positions carry it
  have hpos : 0 < (l.map f).count (f l[i]) := List.count_pos_iff.2 (List.mem_map_of_mem (List.getElem_mem hi))
  rw [show (l.map f).count (f l[i]) = 1 ↔ (l.map f).count (f l[i]) ≤ 1 by omega, ← cls_length_eq_count, cls,
    List.length_filter_le_one_iff, List.pairwise_iff_getElem]
  simp only [beq_iff_eq]
  constructor
  · intro h j hj hfj
    by_contra hne
    rcases Nat.lt_or_gt_of_ne hne with h1 | h1
    · exact h j i hj hi h1 ⟨hfj, rfl⟩
    · exact h i j hi hj h1 ⟨rfl, hfj⟩
  · intro h j k hj hk hjk ⟨h1, h2⟩
    have := h j hj h1
    have := h k hk h2
    omega

/-- **the model in readable form**: the entries of the face table whose key occurs once, sorted by their keys (the model
    pairs every entry with its key, filters and sorts the pairs and projects the keys away again) -/
theorem boundaryFaces_eq (ts : List Tet) :
    boundaryFaces ts = ((allFaces ts).filter (uniq (fun e : Tri × Nat => faceKey e.1) (allFaces ts))).mergeSort
      fun a b => lex3 (faceKey a.1) (faceKey b.1) := by
  unfold boundaryFaces
  simp only
  rw [List.map_mergeSort (s := fun a b => lex3 (faceKey a.1) (faceKey b.1)) fun a ha b hb => by
    obtain ⟨x, _, rfl⟩ := List.mem_map.mp (List.mem_filter.mp ha).1
    obtain ⟨y, _, rfl⟩ := List.mem_map.mp (List.mem_filter.mp hb).1
    rfl]
  congr 1
  -- the filter commutes with the pairing, the projection cancels it, and a key class is as long in either list
  rw [List.filter_map, List.map_map]
  refine ((List.map_congr_left fun x _ => rfl).trans (List.map_id _)).trans (List.filter_congr fun e _ => ?_)
  simp only [Function.comp_apply, uniq, cls, faceKey]
  rw [List.filter_map, List.length_map]
  rfl

theorem boundaryFaces_perm (ts : List Tet) :
    (boundaryFaces ts).Perm ((allFaces ts).filter (uniq (fun e : Tri × Nat => faceKey e.1) (allFaces ts))) := by
  rw [boundaryFaces_eq]; exact List.mergeSort_perm _ _

section ClassSum
variable {α κ M : Type} [BEq κ] [LawfulBEq κ] [AddCommMonoid M] (key : α → κ) (w : α → M)

theorem sum_filter_split (p : α → Bool) (l : List α) :
    (l.map w).sum = ((l.filter p).map w).sum + ((l.filter (fun e => !p e)).map w).sum := by
  simpa using (List.sum_map_filter_add_sum_map_filter_not (fun a => p a = true) w l).symm

theorem cls_cons_self (a : α) (t : List α) : a ∈ cls key (a :: t) (key a) := by
  simp [cls]

omit [AddCommMonoid M] in
theorem cls_filter_ne (l : List α) (k k' : κ) :
    cls key (l.filter fun e => !(key e == k)) k' = if k' == k then [] else cls key l k' := by
  simp only [cls, List.filter_filter]
  split
  · next h => rw [eq_of_beq h]; exact List.filter_eq_nil_iff.mpr fun e _ => by simp
  · next h =>
    refine List.filter_congr fun e _ => ?_
    by_cases he : key e = k'
    · simpa [he] using h
    · simp [he]

omit [AddCommMonoid M] in
/-- `uniq` depends on an element only through its key: within the class of `k` it is constant -/
theorem filter_key_and_nonuniq (l : List α) (k : κ) :
    l.filter (fun e => key e == k && !uniq key l e) = if (cls key l k).length = 1 then [] else cls key l k := by
  have h : ∀ e, (key e == k && !uniq key l e) = (key e == k && !((cls key l k).length == 1)) := fun e => by
    by_cases he : key e = k
    · simp only [uniq, he]
    · rw [beq_false_of_ne he]; rfl
  rw [List.filter_congr fun e _ => h e]
  by_cases h1 : (cls key l k).length = 1
  · simp [h1]
  · rw [if_neg h1, beq_false_of_ne h1]; simp [cls]

/-- a sum over a list lies in an additively closed set `S` if the sum over each key class does: split off the class of
    the first element's key; the rest is the same question for a shorter list -/
theorem sum_mem_of_cls (S : M → Prop) (h0 : S 0) (hadd : ∀ a b, S a → S b → S (a + b)) :
    ∀ (l : List α), (∀ k, S (((cls key l k).map w).sum)) → S ((l.map w).sum)
  | [], _ => by simpa using h0
  | a :: t, hcls => by
    have hlt : ((a :: t).filter fun e => !(key e == key a)).length < (a :: t).length :=
      List.length_filter_lt_length_iff_exists.mpr ⟨a, List.mem_cons_self, by simp⟩
    rw [sum_filter_split w (fun e => key e == key a)]
    refine hadd _ _ (hcls (key a)) (sum_mem_of_cls S h0 hadd _ fun k' => ?_)
    rw [cls_filter_ne]
    split
    · simpa using h0
    · exact hcls k'
  termination_by l => l.length
  decreasing_by exact hlt

theorem sum_eq_uniq_add_of_pairs (S : M → Prop) (h0 : S 0) (hadd : ∀ a b, S a → S b → S (a + b)) (l : List α)
    (hle : ∀ k, (cls key l k).length ≤ 2) (hpair : ∀ a b, key a = key b → [a, b].Sublist l → S (w a + w b)) :
    ∃ r, S r ∧ (l.map w).sum = ((l.filter (uniq key l)).map w).sum + r := by
  refine ⟨_, sum_mem_of_cls key w S h0 hadd _ fun k => ?_, sum_filter_split w (uniq key l) l⟩
  -- among the entries with a repeated key the class of `k` is empty or all of it, and then a pair
  rw [cls, List.filter_filter, filter_key_and_nonuniq]
  have hsub : (cls key l k).Sublist l := List.filter_sublist
  have hkey : ∀ e ∈ cls key l k, key e = k := fun e he => by simpa using (List.mem_filter.mp he).2
  match hc : cls key l k, hle k, hsub, hkey with
  | [], _, _, _ => simpa using h0
  | [_], _, _, _ => simpa using h0
  | [a, b], _, hsub, hkey =>
    simpa using hpair a b ((hkey a (by simp)).trans (hkey b (by simp)).symm) hsub
  | _ :: _ :: _ :: _, hle, _, _ => simp at hle

end ClassSum

theorem allFaces_sum {M : Type} [AddCommMonoid M] (g : Tri → M) (ts : List Tet) :
    ((allFaces ts).map (fun e => g e.1)).sum = (ts.map (fun τ => ((tetFaces τ).map g).sum)).sum := by
  rw [((allFaces_perm ts).map _).sum_eq, List.map_flatMap, List.flatMap_def, List.sum_flatten, List.map_map]
  conv_rhs => rw [← List.zipIdx_map_fst 0 ts, List.map_map]
  refine congrArg List.sum (List.map_congr_left fun x _ => ?_)
  simp only [Function.comp_apply, List.map_map]
  rfl

end LapyVerif.TetLemmas
