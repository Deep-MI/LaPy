import LapyVerif.Lemmas.V3Alg
import LapyVerif.Model.Fem
/-
  Rigid motions and similarities, expressed by what they do to difference vectors.

  `T : V3 ℝ → V3 ℝ` is called an *isometry* here when it preserves the dot products of difference vectors (`IsIsometry`
  is this condition, not a theorem about rotations; `rows_isIsometry` shows that matrices with orthonormal columns meet it).  Everything LaPy computes per element is a function of dot products of edge vectors
  (`|a×b|² = |a|²|b|² − (a·b)²` by Lagrange, `det(a,b,c)² =` Gram determinant), so invariance under all rigid motions
  follows at once, with no matrix representation needed.
-/
namespace LapyVerif
open V3

def IsIsometry (T : V3 ℝ → V3 ℝ) : Prop :=
  ∀ a b c d : V3 ℝ, dot (T a - T b) (T c - T d) = dot (a - b) (c - d)

/-- scales dot products of difference vectors by `s²` (uniform scaling composed with an isometry) -/
def IsSimilarity (s : ℝ) (T : V3 ℝ → V3 ℝ) : Prop :=
  ∀ a b c d : V3 ℝ, dot (T a - T b) (T c - T d) = s * s * dot (a - b) (c - d)

theorem isSimilarity_one_iff (T : V3 ℝ → V3 ℝ) : IsSimilarity 1 T ↔ IsIsometry T := by
  simp [IsSimilarity, IsIsometry]

theorem translate_isIsometry (c : V3 ℝ) : IsIsometry (fun a => a + c) := by
  intro a b c' d; rw [V3.add_sub_add_right, V3.add_sub_add_right]

theorem scale_isSimilarity (s : ℝ) : IsSimilarity s (fun a => smul s a) := by
  intro a b c d; simp only [dot_sub_left, dot_sub_right, dot_smul_left, dot_smul_right]; ring

theorem neg_isIsometry : IsIsometry (fun a => -a) := by
  intro a b c d; simp only [dot_sub_left, dot_sub_right, dot_neg_left, dot_neg_right]; ring

/-- `Σₖ (rₖ·p)(rₖ·q) = p·q` when the columns of the matrix with rows `rₖ` are orthonormal -/
theorem rows_dot (r1 r2 r3 p q : V3 ℝ)
    (hxx : r1.x * r1.x + r2.x * r2.x + r3.x * r3.x = 1) (hyy : r1.y * r1.y + r2.y * r2.y + r3.y * r3.y = 1)
    (hzz : r1.z * r1.z + r2.z * r2.z + r3.z * r3.z = 1) (hxy : r1.x * r1.y + r2.x * r2.y + r3.x * r3.y = 0)
    (hxz : r1.x * r1.z + r2.x * r2.z + r3.x * r3.z = 0) (hyz : r1.y * r1.z + r2.y * r2.z + r3.y * r3.z = 0) :
    dot r1 p * dot r1 q + dot r2 p * dot r2 q + dot r3 p * dot r3 q = dot p q := by
  v3_flat
  linear_combination (p.x * q.x) * hxx + (p.y * q.y) * hyy + (p.z * q.z) * hzz + (p.x * q.y + p.y * q.x) * hxy
    + (p.x * q.z + p.z * q.x) * hxz + (p.y * q.z + p.z * q.y) * hyz

/-- a matrix with orthonormal columns (given by its rows `r1 r2 r3`) -/
theorem rows_isIsometry (r1 r2 r3 : V3 ℝ)
    (hxx : r1.x * r1.x + r2.x * r2.x + r3.x * r3.x = 1) (hyy : r1.y * r1.y + r2.y * r2.y + r3.y * r3.y = 1)
    (hzz : r1.z * r1.z + r2.z * r2.z + r3.z * r3.z = 1) (hxy : r1.x * r1.y + r2.x * r2.y + r3.x * r3.y = 0)
    (hxz : r1.x * r1.z + r2.x * r2.z + r3.x * r3.z = 0) (hyz : r1.y * r1.z + r2.y * r2.z + r3.y * r3.z = 0) :
    IsIsometry (fun a => ⟨dot r1 a, dot r2 a, dot r3 a⟩) := by
  intro a b c d
  have lin : ∀ p q : V3 ℝ, (⟨dot r1 p, dot r2 p, dot r3 p⟩ : V3 ℝ) - ⟨dot r1 q, dot r2 q, dot r3 q⟩
      = ⟨dot r1 (p - q), dot r2 (p - q), dot r3 (p - q)⟩ := by
    intro p q; simp only [dot_sub_right]; rfl
  simp only [lin]
  exact rows_dot r1 r2 r3 (a - b) (c - d) hxx hyy hzz hxy hxz hyz

section sim
variable {s : ℝ} {T : V3 ℝ → V3 ℝ} (h : IsSimilarity s T)
include h

theorem sim_dot (a b c d : V3 ℝ) : dot (T a - T b) (T c - T d) = s * s * dot (a - b) (c - d) := h a b c d

theorem sim_normSq (a b : V3 ℝ) : normSq (T a - T b) = s * s * normSq (a - b) := h a b a b

theorem sim_cross_normSq (a b c d : V3 ℝ) :
    normSq (cross (T a - T b) (T c - T d)) = (s * s) * (s * s) * normSq (cross (a - b) (c - d)) := by
  rw [normSq_cross, normSq_cross]
  simp only [normSq_eq_dot, h _ _ _ _]
  ring

theorem sim_triple_sq (a b c d e f : V3 ℝ) :
    dot (T a - T b) (cross (T c - T d) (T e - T f)) * dot (T a - T b) (cross (T c - T d) (T e - T f))
      = (s * s) * (s * s) * (s * s) * (dot (a - b) (cross (c - d) (e - f)) * dot (a - b) (cross (c - d) (e - f))) := by
  rw [triple_sq, triple_sq]
  simp only [normSq_eq_dot, h _ _ _ _]
  ring

theorem sim_sqrt_cross (a b c d : V3 ℝ) :
    Real.sqrt (normSq (cross (T a - T b) (T c - T d))) = s * s * Real.sqrt (normSq (cross (a - b) (c - d))) := by
  rw [sim_cross_normSq h, Real.sqrt_mul (mul_nonneg (mul_self_nonneg s) (mul_self_nonneg s)),
    Real.sqrt_mul_self (mul_self_nonneg s)]

theorem triVol_similarity (v1 v2 v3 : V3 ℝ) : Fem.triVol (T v1) (T v2) (T v3) = s * s * Fem.triVol v1 v2 v3 := by
  simp only [Fem.triVol, Fem.triCr, sqrt_real]
  rw [sim_sqrt_cross h]
  ring

theorem tetVol_similarity (v1 v2 v3 v4 : V3 ℝ) :
    Fem.tetVol (T v1) (T v2) (T v3) (T v4) = |s| * (s * s) * Fem.tetVol v1 v2 v3 v4 := by
  simp only [Fem.tetVol, abs_real]
  have hsq := sim_triple_sq h v4 v1 v2 v1 v1 v3
  set D' := dot (T v4 - T v1) (cross (T v2 - T v1) (T v1 - T v3))
  set D := dot (v4 - v1) (cross (v2 - v1) (v1 - v3))
  have h2 : D' * D' = (s * s * s * D) * (s * s * s * D) := by rw [hsq]; ring
  have h3 : |D'| = |s * s * s * D| := abs_eq_abs.mpr (mul_self_eq_mul_self_iff.mp h2)
  rw [h3, abs_mul, abs_mul, abs_mul_self]
  ring

end sim

theorem triVol_isometry {T : V3 ℝ → V3 ℝ} (h : IsIsometry T) (v1 v2 v3 : V3 ℝ) :
    Fem.triVol (T v1) (T v2) (T v3) = Fem.triVol v1 v2 v3 := by
  rw [triVol_similarity ((isSimilarity_one_iff T).mpr h), one_mul, one_mul]

theorem tetVol_isometry {T : V3 ℝ → V3 ℝ} (h : IsIsometry T) (v1 v2 v3 v4 : V3 ℝ) :
    Fem.tetVol (T v1) (T v2) (T v3) (T v4) = Fem.tetVol v1 v2 v3 v4 := by
  rw [tetVol_similarity ((isSimilarity_one_iff T).mpr h), abs_one, one_mul, one_mul, one_mul]

end LapyVerif
