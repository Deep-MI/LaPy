import LapyVerif.Lemmas.V3Alg
/-
  Specification side, independent of the code's formulas: gradient of the linear interpolant on a triangle /
  tetrahedron, element measures.  The gradient is *characterised* (`gradTri_char`, `gradTri_unique`), not assumed.
-/
namespace LapyVerif.Spec
open V3

/-- twice the area vector of the triangle `(v1,v2,v3)` -/
def triN (v1 v2 v3 : V3 ℝ) : V3 ℝ := cross (v2 - v1) (v3 - v1)

noncomputable def triArea (v1 v2 v3 : V3 ℝ) : ℝ := Real.sqrt (normSq (triN v1 v2 v3)) / 2

/-- gradient of the linear interpolant of the corner values `f1 f2 f3`; the sum under the cross product is named
    `edgeComb` below (`gradTri_eq`) -/
noncomputable def gradTri (v1 v2 v3 : V3 ℝ) (f1 f2 f3 : ℝ) : V3 ℝ :=
  let n := triN v1 v2 v3
  smul (1 / normSq n) (cross n (smul f1 (v3 - v2) + smul f2 (v1 - v3) + smul f3 (v2 - v1)))

/-- six times the signed volume of the tetrahedron -/
def tetDet (v1 v2 v3 v4 : V3 ℝ) : ℝ := dot (v2 - v1) (cross (v3 - v1) (v4 - v1))

noncomputable def tetVolume (v1 v2 v3 v4 : V3 ℝ) : ℝ := |tetDet v1 v2 v3 v4| / 6

/-- gradient of the linear interpolant on a tetrahedron (Cramer's rule for the three difference equations) -/
noncomputable def gradTet (v1 v2 v3 v4 : V3 ℝ) (f1 f2 f3 f4 : ℝ) : V3 ℝ :=
  smul (1 / tetDet v1 v2 v3 v4)
    (smul (f2 - f1) (cross (v3 - v1) (v4 - v1)) + smul (f3 - f1) (cross (v4 - v1) (v2 - v1))
      + smul (f4 - f1) (cross (v2 - v1) (v3 - v1)))

/-- `det · ∇f`: the differences to the first corner combined with the cross products of the edges at that corner
    (the tetrahedral `edgeComb`) -/
def faceComb (v1 v2 v3 v4 : V3 ℝ) (f1 f2 f3 f4 : ℝ) : V3 ℝ :=
  smul (f2 - f1) (cross (v3 - v1) (v4 - v1)) + smul (f3 - f1) (cross (v4 - v1) (v2 - v1))
    + smul (f4 - f1) (cross (v2 - v1) (v3 - v1))

theorem gradTet_eq (v1 v2 v3 v4 : V3 ℝ) (f1 f2 f3 f4 : ℝ) :
    gradTet v1 v2 v3 v4 f1 f2 f3 f4 = smul (1 / tetDet v1 v2 v3 v4) (faceComb v1 v2 v3 v4 f1 f2 f3 f4) := rfl

/-- the determinant as `_fem_tetra` and `tet_compute_gradient` write it: `e3·(e0×e2)` with the edge `e2 = v1 − v3` reversed -/
theorem tetDet_code (v1 v2 v3 v4 : V3 ℝ) : dot (v4 - v1) (cross (v2 - v1) (v1 - v3)) = -tetDet v1 v2 v3 v4 := by
  rw [tetDet, ← V3.neg_sub v3 v1, cross_neg_right, dot_neg_right, dot_cross_rot]

/-- `tetDet` is alternating in the four corners: the three transpositions that generate S₄.  Exchanging the base corner
    with its neighbour replaces the edges `a b c` by `−a`, `b − a`, `c − a`, and `a·((b−a)×(c−a)) = a·(b×c)` -/
theorem tetDet_swap01 (v1 v2 v3 v4 : V3 ℝ) : tetDet v2 v1 v3 v4 = -tetDet v1 v2 v3 v4 := by
  rw [tetDet, tetDet, ← V3.neg_sub v2 v1, sub_eq_sub_sub_sub v1 v2 v3, sub_eq_sub_sub_sub v1 v2 v4, dot_neg_left,
    dot_cross_sub_sub]
theorem tetDet_swap12 (v1 v2 v3 v4 : V3 ℝ) : tetDet v1 v3 v2 v4 = -tetDet v1 v2 v3 v4 := by
  rw [tetDet, tetDet, cross_anticomm, dot_neg_right, ← dot_cross_rot]
theorem tetDet_swap23 (v1 v2 v3 v4 : V3 ℝ) : tetDet v1 v2 v4 v3 = -tetDet v1 v2 v3 v4 := by
  rw [tetDet, tetDet, cross_anticomm, dot_neg_right]

/-- a triangle is the tetrahedron with apex `v1 + n`, carrying a function that is constant along the normal `n` -/
theorem gradTri_eq_cramer (v1 v2 v3 : V3 ℝ) (f1 f2 f3 : ℝ) :
    gradTri v1 v2 v3 f1 f2 f3 = smul (1 / dot (v2 - v1) (cross (v3 - v1) (triN v1 v2 v3)))
      (smul (f2 - f1) (cross (v3 - v1) (triN v1 v2 v3)) + smul (f3 - f1) (cross (triN v1 v2 v3) (v2 - v1))
        + smul 0 (cross (v2 - v1) (v3 - v1))) := by
  simp only [gradTri, triN, normSq]
  rw [sub_eq_sub_sub_sub v1 v2 v3, ← V3.neg_sub v3 v1]
  generalize v2 - v1 = a
  generalize v3 - v1 = b
  rw [← dot_cross_swap a b (cross a b)]
  congr 1
  generalize cross a b = n
  refine ext_dot fun w => ?_
  simp only [cross_add_right, cross_sub_right, cross_neg_right, cross_smul_right, cross_anticomm b n, dot_add_right,
    dot_sub_right, dot_neg_right, dot_smul_right]
  ring

theorem det_triN (v1 v2 v3 : V3 ℝ) : dot (v2 - v1) (cross (v3 - v1) (triN v1 v2 v3)) = normSq (triN v1 v2 v3) :=
  (dot_cross_swap _ _ _).symm

theorem gradTri_char (v1 v2 v3 : V3 ℝ) (f1 f2 f3 : ℝ) (hn : normSq (triN v1 v2 v3) ≠ 0) :
    dot (gradTri v1 v2 v3 f1 f2 f3) (v2 - v1) = f2 - f1 ∧
    dot (gradTri v1 v2 v3 f1 f2 f3) (v3 - v1) = f3 - f1 ∧
    dot (gradTri v1 v2 v3 f1 f2 f3) (triN v1 v2 v3) = 0 := by
  rw [gradTri_eq_cramer]
  exact dot_cramer _ _ _ _ _ _ (by rw [det_triN]; exact hn)

theorem gradTri_unique (v1 v2 v3 : V3 ℝ) (f1 f2 f3 : ℝ) (hn : normSq (triN v1 v2 v3) ≠ 0) (g : V3 ℝ)
    (h1 : dot g (v2 - v1) = f2 - f1) (h2 : dot g (v3 - v1) = f3 - f1) (h3 : dot g (triN v1 v2 v3) = 0) :
    g = gradTri v1 v2 v3 f1 f2 f3 := by
  rw [gradTri_eq_cramer, eq_cramer (v2 - v1) (v3 - v1) (triN v1 v2 v3) g (by rw [det_triN]; exact hn), h1, h2, h3]

/-- `F = f1 (v3−v2) + f2 (v1−v3) + f3 (v2−v1)`: the corner values combined with the opposite edge vectors;
    `n × F / |n|²` is the gradient of the linear interpolant -/
def edgeComb (v1 v2 v3 : V3 ℝ) (f1 f2 f3 : ℝ) : V3 ℝ := smul f1 (v3 - v2) + smul f2 (v1 - v3) + smul f3 (v2 - v1)

theorem gradTri_eq (v1 v2 v3 : V3 ℝ) (f1 f2 f3 : ℝ) :
    gradTri v1 v2 v3 f1 f2 f3
      = smul (1 / normSq (triN v1 v2 v3)) (cross (triN v1 v2 v3) (edgeComb v1 v2 v3 f1 f2 f3)) := rfl

theorem dot_edgeComb (u v1 v2 v3 : V3 ℝ) (f1 f2 f3 : ℝ) :
    dot u (edgeComb v1 v2 v3 f1 f2 f3) = f1 * dot u (v3 - v2) + f2 * dot u (v1 - v3) + f3 * dot u (v2 - v1) := by
  simp only [edgeComb, dot_add_right, dot_smul_right]

theorem edgeComb_const (v1 v2 v3 : V3 ℝ) (c : ℝ) : edgeComb v1 v2 v3 c c c = ⟨0, 0, 0⟩ := by
  refine ext_dot fun w => ?_
  simp only [dot_edgeComb, dot_sub_right, dot_zero_right]; ring

theorem edgeComb_perp (v1 v2 v3 : V3 ℝ) (f1 f2 f3 : ℝ) : dot (triN v1 v2 v3) (edgeComb v1 v2 v3 f1 f2 f3) = 0 := by
  -- `n = a × b` is orthogonal to the three edges `b − a`, `−b`, `a`
  rw [dot_edgeComb, triN, sub_eq_sub_sub_sub v1 v2 v3, ← V3.neg_sub v3 v1, dot_sub_right, dot_neg_right,
    dot_cross_self_left, dot_cross_self_right]
  ring

theorem edgeComb_affine (v1 v2 v3 a : V3 ℝ) (b : ℝ) :
    edgeComb v1 v2 v3 (dot a v1 + b) (dot a v2 + b) (dot a v3 + b) = cross a (triN v1 v2 v3) := by
  -- `a × (p × q) = (a·q) p − (a·p) q`, tested against an arbitrary `w`
  refine ext_dot fun w => ?_
  simp only [dot_edgeComb, triN, cross_cross_right, dot_sub_right, dot_smul_right]; ring

theorem triN_rot (v1 v2 v3 : V3 ℝ) : triN v2 v3 v1 = triN v1 v2 v3 := by
  rw [triN, triN, cross_sub_sub, cross_sub_sub, V3.add_comm _ (cross v1 v2), ← V3.add_assoc]
theorem triN_swap (v1 v2 v3 : V3 ℝ) : triN v2 v1 v3 = -triN v1 v2 v3 :=
  (cross_anticomm _ _).trans (congrArg _ (triN_rot v1 v2 v3))
theorem edgeComb_swap (v1 v2 v3 : V3 ℝ) (f1 f2 f3 : ℝ) : edgeComb v2 v1 v3 f2 f1 f3 = -edgeComb v1 v2 v3 f1 f2 f3 := by
  refine ext_dot fun w => ?_
  simp only [dot_edgeComb, dot_neg_right, dot_sub_right]; ring
theorem edgeComb_rot (v1 v2 v3 : V3 ℝ) (f1 f2 f3 : ℝ) : edgeComb v2 v3 v1 f2 f3 f1 = edgeComb v1 v2 v3 f1 f2 f3 := by
  refine ext_dot fun w => ?_
  simp only [dot_edgeComb]; ring

/-- the gradient does not depend on the numbering of the corners, orientation included: a flip negates `n` and `F` -/
theorem gradTri_swap (v1 v2 v3 : V3 ℝ) (f1 f2 f3 : ℝ) : gradTri v2 v1 v3 f2 f1 f3 = gradTri v1 v2 v3 f1 f2 f3 := by
  rw [gradTri_eq, gradTri_eq, triN_swap, edgeComb_swap, normSq_neg, cross_neg_left, cross_neg_right, V3.neg_neg]
theorem gradTri_rot (v1 v2 v3 : V3 ℝ) (f1 f2 f3 : ℝ) : gradTri v2 v3 v1 f2 f3 f1 = gradTri v1 v2 v3 f1 f2 f3 := by
  rw [gradTri_eq, gradTri_eq, triN_rot, edgeComb_rot]

/-- in this form the flat-plane lemmas go on by `cross_smul_left`, `dot_smul_right`, `normSq_smul`, `normSq_ez` -/
theorem triN_flat (v1 v2 v3 : V3 ℝ) (h1 : v1.z = 0) (h2 : v2.z = 0) (h3 : v3.z = 0) :
    triN v1 v2 v3 = smul (triN v1 v2 v3).z ⟨0, 0, 1⟩ :=
  V3.ext' (by simp only [triN]; v3_flat; rw [h1, h2, h3]; ring) (by simp only [triN]; v3_flat; rw [h1, h2, h3]; ring)
    (mul_one _).symm

theorem triArea_swap (v1 v2 v3 : V3 ℝ) : triArea v2 v1 v3 = triArea v1 v2 v3 := by
  rw [triArea, triN_swap, normSq_neg, triArea]
theorem triArea_rot (v1 v2 v3 : V3 ℝ) : triArea v2 v3 v1 = triArea v1 v2 v3 := by
  rw [triArea, triN_rot, triArea]

/-- `∇f·∇g = F·G / |n|²` (Lagrange, `F ⟂ n`) -/
theorem gradTri_dot (v1 v2 v3 : V3 ℝ) (f1 f2 f3 g1 g2 g3 : ℝ) :
    dot (gradTri v1 v2 v3 f1 f2 f3) (gradTri v1 v2 v3 g1 g2 g3)
      = dot (edgeComb v1 v2 v3 f1 f2 f3) (edgeComb v1 v2 v3 g1 g2 g3) / normSq (triN v1 v2 v3) := by
  rw [gradTri_eq, gradTri_eq, dot_smul_left, dot_smul_right, dot_cross_cross, edgeComb_perp, zero_mul, sub_zero]
  rw [← normSq_eq_dot]
  field_simp

/-- for the corner values of `a·x + b` the gradient is the projection of `a` onto the plane of the triangle -/
theorem gradTri_affine (v1 v2 v3 a : V3 ℝ) (b : ℝ) (hN : normSq (triN v1 v2 v3) ≠ 0) :
    gradTri v1 v2 v3 (dot a v1 + b) (dot a v2 + b) (dot a v3 + b)
      = a - smul (dot a (triN v1 v2 v3) / normSq (triN v1 v2 v3)) (triN v1 v2 v3) := by
  symm
  apply gradTri_unique v1 v2 v3 _ _ _ hN
  · rw [dot_sub_left, dot_smul_left, triN, dot_cross_self_left, dot_sub_right]; ring
  · rw [dot_sub_left, dot_smul_left, triN, dot_cross_self_right, dot_sub_right]; ring
  · rw [dot_sub_left, dot_smul_left]; exact sub_eq_zero.mpr (div_mul_cancel₀ _ hN).symm

theorem gradTet_char (v1 v2 v3 v4 : V3 ℝ) (f1 f2 f3 f4 : ℝ) (hd : tetDet v1 v2 v3 v4 ≠ 0) :
    dot (gradTet v1 v2 v3 v4 f1 f2 f3 f4) (v2 - v1) = f2 - f1 ∧
    dot (gradTet v1 v2 v3 v4 f1 f2 f3 f4) (v3 - v1) = f3 - f1 ∧
    dot (gradTet v1 v2 v3 v4 f1 f2 f3 f4) (v4 - v1) = f4 - f1 :=
  dot_cramer _ _ _ _ _ _ hd

theorem gradTet_unique (v1 v2 v3 v4 : V3 ℝ) (f1 f2 f3 f4 : ℝ) (hd : tetDet v1 v2 v3 v4 ≠ 0) (g : V3 ℝ)
    (h1 : dot g (v2 - v1) = f2 - f1) (h2 : dot g (v3 - v1) = f3 - f1) (h3 : dot g (v4 - v1) = f4 - f1) :
    g = gradTet v1 v2 v3 v4 f1 f2 f3 f4 := by
  rw [eq_cramer _ _ _ g hd, h1, h2, h3]; rfl

/-! ### the sample elements of the worked examples: the two halves of the unit square, the unit tetrahedron -/

theorem triN_unit : triN (⟨0, 0, 0⟩ : V3 ℝ) ⟨1, 0, 0⟩ ⟨0, 1, 0⟩ = ⟨0, 0, 1⟩ := by
  v3_flat [triN, V3.ext'_iff]; norm_num
theorem triN_unit' : triN (⟨1, 0, 0⟩ : V3 ℝ) ⟨1, 1, 0⟩ ⟨0, 1, 0⟩ = ⟨0, 0, 1⟩ := by
  v3_flat [triN, V3.ext'_iff]; norm_num

theorem triArea_unit : triArea (⟨0, 0, 0⟩ : V3 ℝ) ⟨1, 0, 0⟩ ⟨0, 1, 0⟩ = 1 / 2 := by
  rw [triArea, triN_unit, normSq_ez, Real.sqrt_one]
theorem triArea_unit' : triArea (⟨1, 0, 0⟩ : V3 ℝ) ⟨1, 1, 0⟩ ⟨0, 1, 0⟩ = 1 / 2 := by
  rw [triArea, triN_unit', normSq_ez, Real.sqrt_one]

theorem tetDet_unit : tetDet (⟨0, 0, 0⟩ : V3 ℝ) ⟨1, 0, 0⟩ ⟨0, 1, 0⟩ ⟨0, 0, 1⟩ = 1 := by
  v3_flat [tetDet]; norm_num

end LapyVerif.Spec
