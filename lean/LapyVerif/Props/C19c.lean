import LapyVerif.Props.C19b
/-
  C19c — the decision pipeline of `tria_spherical_project` between `eigs` and the curvature flow (`Flow.embed`):
  direction-1 test, swap of eigenfunctions 2 and 3 together with their poles, sign flips, rescaling to `-1..1`,
  new coordinates `(ev3, ev1, ev2)`.
-/
namespace LapyVerif.Props.C19
open V3 Flow

/-- extent `|cmax.y − cmin.y|` of the pole pair of an eigenfunction along `y` -/
noncomputable def yExt (v : List (V3 ℝ)) (e : List ℝ) : ℝ := |(poles v e).1.y - (poles v e).2.y|
noncomputable def zExt (v : List (V3 ℝ)) (e : List ℝ) : ℝ := |(poles v e).1.z - (poles v e).2.z|

/-- the eigenfunction used for direction 2: the one of `e2`, `e3` that is longer along `z` (`e2` on a tie) -/
noncomputable def second (v : List (V3 ℝ)) (e2 e3 : List ℝ) : List ℝ := if zExt v e2 < zExt v e3 then e3 else e2
noncomputable def third (v : List (V3 ℝ)) (e2 e3 : List ℝ) : List ℝ := if zExt v e2 < zExt v e3 then e2 else e3

/-- the three aligned eigenfunctions that `embed` rescales: negated when they decrease along their axis (`y`, `z`, `x`).
    `Flow.embed` inlines this flip on the poles; it is `Flow.alignAxis` (C19b) with the pole coordinate for `axisDiff`:
    `aligned1 v e = Flow.alignAxis e (v.map (·.y))` holds by unfolding and `sub_neg`, but no lemma states it: the
    statements below are proved on `poles`. -/
noncomputable def aligned1 (v : List (V3 ℝ)) (e1 : List ℝ) : List ℝ :=
  if (poles v e1).1.y < (poles v e1).2.y then e1.map (fun e => -e) else e1
noncomputable def aligned2 (v : List (V3 ℝ)) (e2 e3 : List ℝ) : List ℝ :=
  if (poles v (second v e2 e3)).1.z < (poles v (second v e2 e3)).2.z then (second v e2 e3).map (fun e => -e)
  else second v e2 e3
noncomputable def aligned3 (v : List (V3 ℝ)) (e2 e3 : List ℝ) : List ℝ :=
  if (poles v (third v e2 e3)).1.x < (poles v (third v e2 e3)).2.x then (third v e2 e3).map (fun e => -e)
  else third v e2 e3

noncomputable def nrm (w : V3 ℝ) : V3 ℝ := smul (1 / Real.sqrt (normSq w)) w
/-- `cmax − cmin` -/
noncomputable def poleDiff (v : List (V3 ℝ)) (e : List ℝ) : V3 ℝ := (poles v e).1 - (poles v e).2
/-- `spatvol = |n1 · (n2 × n3)|` of the three normalised pole directions (after the swap) -/
noncomputable def spatvol (v : List (V3 ℝ)) (e1 e2 e3 : List ℝ) : ℝ :=
  |dot (nrm (poleDiff v e1)) (cross (nrm (poleDiff v (second v e2 e3))) (nrm (poleDiff v (third v e2 e3))))|

/-- the new vertex list `(ev3, ev1, ev2)` -/
def zip3 (a b c : List ℝ) : List (V3 ℝ) := (a.zip (b.zip c)).map fun p => ⟨p.1, p.2.1, p.2.2⟩

def embedMsg : String := "Direction 1 should be anterior - posterior"

/-- **the model in readable form** (the definition itself is a chain of destructuring `let`s) -/
theorem embed_eq (v : List (V3 ℝ)) (e1 e2 e3 : List ℝ) :
    Flow.embed v e1 e2 e3 =
      if yExt v e1 < yExt v e2 ∨ yExt v e1 < yExt v e3 then .error embedMsg
      else .ok (zip3 (unitRange (aligned3 v e2 e3)) (unitRange (aligned1 v e1)) (unitRange (aligned2 v e2 e3)),
        spatvol v e1 e2 e3) := by
  unfold Flow.embed
  by_cases hsw : zExt v e2 < zExt v e3
  all_goals
    -- the `let`-chain decides the swap on the raw `|…|` terms, so the case hypothesis is needed in unfolded form
    have hsw' := hsw
    unfold zExt at hsw'
    simp only [abs_real, sqrt_real, Bool.or_eq_true, decide_eq_true_eq, Nat.cast_one, yExt, zip3, spatvol, aligned1,
      aligned2, aligned3, second, third, nrm, poleDiff, zExt, hsw', ↓reduceIte, embedMsg, decide_true, decide_false,
      Bool.false_eq_true]

/-- `ValueError` iff eigenfunction 1 is not the longest along `y` -/
theorem embed_error_iff (v : List (V3 ℝ)) (e1 e2 e3 : List ℝ) :
    (∃ msg, Flow.embed v e1 e2 e3 = .error msg) ↔ yExt v e1 < yExt v e2 ∨ yExt v e1 < yExt v e3 := by
  rw [embed_eq]
  split_ifs with h <;> simp [h]

theorem embed_ok_iff (v : List (V3 ℝ)) (e1 e2 e3 : List ℝ) :
    (∃ r, Flow.embed v e1 e2 e3 = .ok r) ↔ yExt v e2 ≤ yExt v e1 ∧ yExt v e3 ≤ yExt v e1 := by
  rw [embed_eq, ← not_lt, ← not_lt, ← not_or]
  split_ifs with h <;> simp [h]

theorem embed_ok_eq {v : List (V3 ℝ)} {e1 e2 e3 : List ℝ} {vn : List (V3 ℝ)} {s : ℝ}
    (h : Flow.embed v e1 e2 e3 = .ok (vn, s)) :
    vn = zip3 (unitRange (aligned3 v e2 e3)) (unitRange (aligned1 v e1)) (unitRange (aligned2 v e2 e3)) ∧
    s = spatvol v e1 e2 e3 := by
  rw [embed_eq] at h
  split at h
  · cases h
  · cases h
    exact ⟨rfl, rfl⟩

/-- the `V3` version of `axisDiff_neg`: negating an eigenfunction swaps its poles -/
theorem poles_neg (v : List (V3 ℝ)) (ev : List ℝ) :
    poles v (ev.map Neg.neg) = ((poles v ev).2, (poles v ev).1) := by
  simp only [poles, maxL_neg, minL_neg, flags_neg, mul_neg, neg_neg]

theorem flip_axis (v : List (V3 ℝ)) (e : List ℝ) (co : V3 ℝ → ℝ) :
    co (poles v (if co (poles v e).1 < co (poles v e).2 then e.map (fun x => -x) else e)).1 ≥
      co (poles v (if co (poles v e).1 < co (poles v e).2 then e.map (fun x => -x) else e)).2 := by
  split_ifs with h
  · rw [poles_neg]
    exact h.le
  · exact not_lt.1 h

theorem aligned1_axis (v : List (V3 ℝ)) (e1 : List ℝ) :
    (poles v (aligned1 v e1)).1.y ≥ (poles v (aligned1 v e1)).2.y :=
  flip_axis v e1 (·.y)

theorem aligned2_axis (v : List (V3 ℝ)) (e2 e3 : List ℝ) :
    (poles v (aligned2 v e2 e3)).1.z ≥ (poles v (aligned2 v e2 e3)).2.z :=
  flip_axis v (second v e2 e3) (·.z)

theorem aligned3_axis (v : List (V3 ℝ)) (e2 e3 : List ℝ) :
    (poles v (aligned3 v e2 e3)).1.x ≥ (poles v (aligned3 v e2 e3)).2.x :=
  flip_axis v (third v e2 e3) (·.x)

private theorem ite_lt_swap {α : Type} {a b : ℝ} (hne : a ≠ b) (x y : α) :
    (if a < b then x else y) = if b < a then y else x := by
  rcases lt_or_gt_of_ne hne with h | h
  · rw [if_pos h, if_neg (not_lt.2 h.le)]
  · rw [if_neg (not_lt.2 h.le), if_pos h]

theorem second_symm {v : List (V3 ℝ)} {e2 e3 : List ℝ} (hne : zExt v e2 ≠ zExt v e3) :
    second v e2 e3 = second v e3 e2 := ite_lt_swap hne e3 e2

theorem third_symm {v : List (V3 ℝ)} {e2 e3 : List ℝ} (hne : zExt v e2 ≠ zExt v e3) :
    third v e2 e3 = third v e3 e2 := ite_lt_swap hne e2 e3

/-- if the two `z`-extents differ, supplying eigenfunctions 2 and 3 in the other order gives
    the same result (vertices and `spatvol`) — the swap moves the eigenfunctions *together with their poles*. -/
theorem embed_swap_symm (v : List (V3 ℝ)) (e1 e2 e3 : List ℝ)
    (hne : |(poles v e2).1.z - (poles v e2).2.z| ≠ |(poles v e3).1.z - (poles v e3).2.z|) :
    Flow.embed v e1 e2 e3 = Flow.embed v e1 e3 e2 := by
  have hne' : zExt v e2 ≠ zExt v e3 := hne
  rw [embed_eq, embed_eq]
  have hs := second_symm hne'
  have ht := third_symm hne'
  have hcond : (yExt v e1 < yExt v e2 ∨ yExt v e1 < yExt v e3) ↔ (yExt v e1 < yExt v e3 ∨ yExt v e1 < yExt v e2) := or_comm
  simp only [hcond, aligned2, aligned3, spatvol, hs, ht]

/-- on a tie `l22 = l32` the vertex part does depend on the order (eigenfunction 2 stays in place), but `spatvol` is
    symmetric in every case: it is the absolute value of a triple product -/
theorem spatvol_symm (v : List (V3 ℝ)) (e1 e2 e3 : List ℝ) : spatvol v e1 e2 e3 = spatvol v e1 e3 e2 := by
  by_cases hne : zExt v e2 = zExt v e3
  · -- tie: the roles of 2 and 3 are exchanged, the triple product changes sign
    simp only [spatvol, second, third, hne, lt_irrefl, if_false]
    rw [V3.cross_anticomm, V3.dot_neg_right, abs_neg]
  · unfold spatvol; rw [second_symm hne, third_symm hne]

theorem unitRange_length (ev : List ℝ) : (unitRange ev).length = ev.length := by simp [unitRange]

noncomputable def rescale (mn mx e : ℝ) : ℝ := if e < 0 then e / (-mn) else if 0 < e then e / mx else e

theorem unitRange_eq (ev : List ℝ) : unitRange ev = ev.map (rescale (minL ev) (maxL ev)) := rfl

/-- `rescale` divides by a positive number: `−min` for negative entries, `max` otherwise (for `e = 0` both read `0`) -/
theorem rescale_eq_div (mn mx e : ℝ) : rescale mn mx e = e / (if e < 0 then -mn else mx) := by
  unfold rescale
  split_ifs with h1 h2
  · rfl
  · rfl
  · obtain rfl : e = 0 := le_antisymm (not_lt.1 h2) (not_lt.1 h1)
    rw [zero_div]

theorem rescale_spec {ev : List ℝ} (hmn : minL ev < 0) (hmx : 0 < maxL ev) {e : ℝ} (he : e ∈ ev) :
    (-1 : ℝ) ≤ rescale (minL ev) (maxL ev) e ∧ rescale (minL ev) (maxL ev) e ≤ 1 ∧
      (e < 0 → rescale (minL ev) (maxL ev) e < 0) ∧ (0 < e → 0 < rescale (minL ev) (maxL ev) e) ∧
      (e = 0 → rescale (minL ev) (maxL ev) e = 0) ∧ (e = maxL ev → rescale (minL ev) (maxL ev) e = 1) ∧
      (e = minL ev → rescale (minL ev) (maxL ev) e = -1) := by
  have h1 := minL_le he
  have h2 := le_maxL he
  generalize minL ev = mn at *
  generalize maxL ev = mx at *
  -- the divisor `D` is positive and `−D ≤ e ≤ D`; it is `max` at the maximum and `−min` at the minimum
  rw [rescale_eq_div]
  have hD : 0 < (if e < 0 then -mn else mx) ∧ -(if e < 0 then -mn else mx) ≤ e ∧ e ≤ (if e < 0 then -mn else mx) := by
    split_ifs with h
    · exact ⟨neg_pos.mpr hmn, by rwa [neg_neg], by linarith⟩
    · exact ⟨hmx, by linarith [not_lt.1 h], h2⟩
  obtain ⟨hpos, hlo, hhi⟩ := hD
  refine ⟨by rw [le_div_iff₀ hpos]; linarith, (div_le_one hpos).mpr hhi, fun h => div_neg_of_neg_of_pos h hpos,
    fun h => div_pos h hpos, fun h => by rw [h, zero_div], fun h => ?_, fun h => ?_⟩
  · rw [h, if_neg hmx.le.not_gt, div_self hmx.ne']
  · rw [h, if_pos hmn, div_neg, div_self hmn.ne]

theorem zip3_length (a b c : List ℝ) : (zip3 a b c).length = min a.length (min b.length c.length) := by
  rw [zip3, List.length_map, List.length_zip, List.length_zip]

theorem aligned1_length (v : List (V3 ℝ)) (e1 : List ℝ) : (aligned1 v e1).length = e1.length := by
  unfold aligned1; split <;> simp

theorem aligned23_length (v : List (V3 ℝ)) (e2 e3 : List ℝ) (h : e2.length = e3.length) :
    (aligned2 v e2 e3).length = e2.length ∧ (aligned3 v e2 e3).length = e2.length := by
  unfold aligned2 aligned3 second third
  constructor <;> split <;> split <;> simp [h]

theorem embed_length {v : List (V3 ℝ)} {e1 e2 e3 : List ℝ} {vn : List (V3 ℝ)} {s : ℝ}
    (h : Flow.embed v e1 e2 e3 = .ok (vn, s)) (h1 : e1.length = v.length) (h2 : e2.length = v.length)
    (h3 : e3.length = v.length) : vn.length = v.length := by
  rw [(embed_ok_eq h).1, zip3_length, unitRange_length, unitRange_length, unitRange_length, aligned1_length,
    (aligned23_length v e2 e3 (h2.trans h3.symm)).1, (aligned23_length v e2 e3 (h2.trans h3.symm)).2, h1, h2]
  simp

/-- entry by entry — the value stays in `[-1,1]`, keeps its sign, and the extreme entries
    are mapped to `±1` -/
theorem unitRange_bounds {ev : List ℝ} (hmn : Flow.minL ev < 0) (hmx : 0 < Flow.maxL ev) (i : Nat)
    (hi : i < ev.length) :
    (-1 : ℝ) ≤ (unitRange ev)[i]'(by rw [unitRange_length]; exact hi) ∧
    (unitRange ev)[i]'(by rw [unitRange_length]; exact hi) ≤ 1 ∧
    (ev[i] < 0 → (unitRange ev)[i]'(by rw [unitRange_length]; exact hi) < 0) ∧
    (0 < ev[i] → 0 < (unitRange ev)[i]'(by rw [unitRange_length]; exact hi)) ∧
    (ev[i] = 0 → (unitRange ev)[i]'(by rw [unitRange_length]; exact hi) = 0) ∧
    (ev[i] = Flow.maxL ev → (unitRange ev)[i]'(by rw [unitRange_length]; exact hi) = 1) ∧
    (ev[i] = Flow.minL ev → (unitRange ev)[i]'(by rw [unitRange_length]; exact hi) = -1) := by
  simpa only [unitRange_eq, List.getElem_map] using rescale_spec hmn hmx (List.getElem_mem hi)

theorem unitRange_mem_bounds {ev : List ℝ} (hmn : Flow.minL ev < 0) (hmx : 0 < Flow.maxL ev) :
    (∀ u ∈ unitRange ev, -1 ≤ u ∧ u ≤ 1) ∧ (1 : ℝ) ∈ unitRange ev ∧ (-1 : ℝ) ∈ unitRange ev := by
  have hne : ev ≠ [] := by
    rintro rfl; simp [Flow.maxL] at hmx
  refine ⟨?_, ?_, ?_⟩
  · intro u hu
    rw [unitRange_eq, List.mem_map] at hu
    obtain ⟨e, he, rfl⟩ := hu
    obtain ⟨hlo, hhi, -⟩ := rescale_spec hmn hmx he
    exact ⟨hlo, hhi⟩
  · rw [unitRange_eq, List.mem_map]
    obtain ⟨-, -, -, -, -, hmax, -⟩ := rescale_spec hmn hmx (maxL_mem hne)
    exact ⟨_, maxL_mem hne, hmax rfl⟩
  · rw [unitRange_eq, List.mem_map]
    obtain ⟨-, -, -, -, -, -, hmin⟩ := rescale_spec hmn hmx (minL_mem hne)
    exact ⟨_, minL_mem hne, hmin rfl⟩

theorem unitRange_of_unit {ev : List ℝ} (hmx : Flow.maxL ev = 1) (hmn : Flow.minL ev = -1) : unitRange ev = ev := by
  rw [unitRange_eq, hmx, hmn]
  refine (List.map_congr_left fun e _ => ?_).trans (List.map_id ev)
  unfold rescale
  split_ifs <;> simp

theorem bothSigns_neg {e : List ℝ} (h : Flow.minL e < 0 ∧ 0 < Flow.maxL e) :
    Flow.minL (e.map fun x => -x) < 0 ∧ 0 < Flow.maxL (e.map fun x => -x) := by
  rw [minL_neg, maxL_neg]; constructor <;> linarith [h.1, h.2]

theorem bothSigns_ite {c : Prop} [Decidable c] {a b : List ℝ} (ha : Flow.minL a < 0 ∧ 0 < Flow.maxL a)
    (hb : Flow.minL b < 0 ∧ 0 < Flow.maxL b) :
    Flow.minL (if c then a else b) < 0 ∧ 0 < Flow.maxL (if c then a else b) := by
  split
  · exact ha
  · exact hb

theorem mem_zip3 {a b c : List ℝ} {p : V3 ℝ} (h : p ∈ zip3 a b c) : p.x ∈ a ∧ p.y ∈ b ∧ p.z ∈ c := by
  unfold zip3 at h
  rw [List.mem_map] at h
  obtain ⟨q, hq, rfl⟩ := h
  have h1 := List.of_mem_zip hq
  have h2 := List.of_mem_zip h1.2
  exact ⟨h1.1, h2.1, h2.2⟩

/-- when each of the three eigenfunctions takes both signs, every coordinate of every
    returned vertex lies in `[-1,1]` -/
theorem embed_coords_bounded {v : List (V3 ℝ)} {e1 e2 e3 : List ℝ} {vn : List (V3 ℝ)} {s : ℝ}
    (h : Flow.embed v e1 e2 e3 = .ok (vn, s))
    (b1 : Flow.minL e1 < 0 ∧ 0 < Flow.maxL e1) (b2 : Flow.minL e2 < 0 ∧ 0 < Flow.maxL e2)
    (b3 : Flow.minL e3 < 0 ∧ 0 < Flow.maxL e3) :
    ∀ p ∈ vn, (-1 ≤ p.x ∧ p.x ≤ 1) ∧ (-1 ≤ p.y ∧ p.y ≤ 1) ∧ (-1 ≤ p.z ∧ p.z ≤ 1) := by
  have ha1 : Flow.minL (aligned1 v e1) < 0 ∧ 0 < Flow.maxL (aligned1 v e1) := bothSigns_ite (bothSigns_neg b1) b1
  have ha2 : Flow.minL (aligned2 v e2 e3) < 0 ∧ 0 < Flow.maxL (aligned2 v e2 e3) :=
    bothSigns_ite (bothSigns_neg (bothSigns_ite b3 b2)) (bothSigns_ite b3 b2)
  have ha3 : Flow.minL (aligned3 v e2 e3) < 0 ∧ 0 < Flow.maxL (aligned3 v e2 e3) :=
    bothSigns_ite (bothSigns_neg (bothSigns_ite b2 b3)) (bothSigns_ite b2 b3)
  intro p hp
  rw [(embed_ok_eq h).1] at hp
  obtain ⟨hx, hy, hz⟩ := mem_zip3 hp
  exact ⟨(unitRange_mem_bounds ha3.1 ha3.2).1 _ hx, (unitRange_mem_bounds ha1.1 ha1.2).1 _ hy,
    (unitRange_mem_bounds ha2.1 ha2.2).1 _ hz⟩

/-- the octahedron vertices scaled by (1, 2, 1.5) -/
noncomputable def octV : List (V3 ℝ) := [⟨1, 0, 0⟩, ⟨-1, 0, 0⟩, ⟨0, 2, 0⟩, ⟨0, -2, 0⟩, ⟨0, 0, 3 / 2⟩, ⟨0, 0, -(3 / 2)⟩]
noncomputable def octE1 : List ℝ := [0, 0, 1, -1, 0, 0]
noncomputable def octE2 : List ℝ := [0, 0, 0, 0, 1, -1]
noncomputable def octE3 : List ℝ := [1, -1, 0, 0, 0, 0]

theorem oct_max1 : Flow.maxL octE1 = 1 ∧ Flow.minL octE1 = -1 := by
  constructor <;> norm_num [Flow.maxL, Flow.minL, octE1]
theorem oct_max2 : Flow.maxL octE2 = 1 ∧ Flow.minL octE2 = -1 := by
  constructor <;> norm_num [Flow.maxL, Flow.minL, octE2]
theorem oct_max3 : Flow.maxL octE3 = 1 ∧ Flow.minL octE3 = -1 := by
  constructor <;> norm_num [Flow.maxL, Flow.minL, octE3]

theorem oct_poles1 : poles octV octE1 = (⟨0, 2, 0⟩, ⟨0, -2, 0⟩) := by
  unfold poles
  rw [oct_max1.1, oct_max1.2]
  simp only [octE1, octV, meanPos, meanSel, List.map_cons, List.map_nil]
  norm_num [List.filter_cons]

theorem oct_poles2 : poles octV octE2 = (⟨0, 0, 3 / 2⟩, ⟨0, 0, -(3 / 2)⟩) := by
  unfold poles
  rw [oct_max2.1, oct_max2.2]
  simp only [octE2, octV, meanPos, meanSel, List.map_cons, List.map_nil]
  norm_num [List.filter_cons]

theorem oct_poles3 : poles octV octE3 = (⟨1, 0, 0⟩, ⟨-1, 0, 0⟩) := by
  unfold poles
  rw [oct_max3.1, oct_max3.2]
  simp only [octE3, octV, meanPos, meanSel, List.map_cons, List.map_nil]
  norm_num [List.filter_cons]

private theorem sqrt_16 : Real.sqrt 16 = 4 := by rw [show (16 : ℝ) = 4 ^ 2 by norm_num, Real.sqrt_sq (by norm_num)]
private theorem sqrt_9 : Real.sqrt 9 = 3 := by rw [show (9 : ℝ) = 3 ^ 2 by norm_num, Real.sqrt_sq (by norm_num)]
private theorem sqrt_4 : Real.sqrt 4 = 2 := by rw [show (4 : ℝ) = 2 ^ 2 by norm_num, Real.sqrt_sq (by norm_num)]

/-- **non-vacuity (over ℝ)**: on the scaled octahedron with the coordinate functions as eigenfunctions `embed` accepts,
    does not swap, does not flip, and returns the unit octahedron in the order `(ev3, ev1, ev2)` with `spatvol = 1` -/
theorem embed_oct : Flow.embed octV octE1 octE2 octE3
    = .ok ([⟨1, 0, 0⟩, ⟨-1, 0, 0⟩, ⟨0, 1, 0⟩, ⟨0, -1, 0⟩, ⟨0, 0, 1⟩, ⟨0, 0, -1⟩], 1) := by
  have y1 : yExt octV octE1 = 4 := by rw [yExt, oct_poles1]; norm_num
  have y2 : yExt octV octE2 = 0 := by rw [yExt, oct_poles2]; norm_num
  have y3 : yExt octV octE3 = 0 := by rw [yExt, oct_poles3]; norm_num
  have z2 : zExt octV octE2 = 3 := by rw [zExt, oct_poles2]; norm_num
  have z3 : zExt octV octE3 = 0 := by rw [zExt, oct_poles3]; norm_num
  have hs : second octV octE2 octE3 = octE2 := by rw [second, z2, z3]; norm_num
  have ht : third octV octE2 octE3 = octE3 := by rw [third, z2, z3]; norm_num
  have a1 : aligned1 octV octE1 = octE1 := by rw [aligned1, oct_poles1]; norm_num
  have a2 : aligned2 octV octE2 octE3 = octE2 := by rw [aligned2, hs, oct_poles2]; norm_num
  have a3 : aligned3 octV octE2 octE3 = octE3 := by rw [aligned3, ht, oct_poles3]; norm_num
  have sv : spatvol octV octE1 octE2 octE3 = 1 := by
    rw [spatvol, hs, ht]
    simp only [poleDiff, oct_poles1, oct_poles2, oct_poles3, nrm]
    v3_flat
    norm_num [sqrt_16, sqrt_9, sqrt_4]
  rw [embed_eq, y1, y2, y3, if_neg (by norm_num), a1, a2, a3, unitRange_of_unit oct_max1.1 oct_max1.2,
    unitRange_of_unit oct_max2.1 oct_max2.2, unitRange_of_unit oct_max3.1 oct_max3.2, sv]
  simp [zip3, octE1, octE2, octE3]

/-- the swap (here: of the arguments) is taken back: `embed_swap_symm` applies since `l22 = 3 ≠ 0 = l32` -/
example : Flow.embed octV octE1 octE3 octE2
    = .ok ([⟨1, 0, 0⟩, ⟨-1, 0, 0⟩, ⟨0, 1, 0⟩, ⟨0, -1, 0⟩, ⟨0, 0, 1⟩, ⟨0, 0, -1⟩], 1) := by
  rw [← embed_swap_symm octV octE1 octE2 octE3 (by rw [oct_poles2, oct_poles3]; norm_num), embed_oct]

/-- the error branch: with the `z`-function supplied as eigenfunction 1 the direction-1 test fails -/
example : ∃ msg, Flow.embed octV octE2 octE1 octE3 = .error msg := by
  rw [embed_error_iff]
  left
  rw [yExt, yExt, oct_poles1, oct_poles2]; norm_num

example : ∀ p ∈ ([⟨1, 0, 0⟩, ⟨-1, 0, 0⟩, ⟨0, 1, 0⟩, ⟨0, -1, 0⟩, ⟨0, 0, 1⟩, ⟨0, 0, -1⟩] : List (V3 ℝ)),
    (-1 ≤ p.x ∧ p.x ≤ 1) ∧ (-1 ≤ p.y ∧ p.y ≤ 1) ∧ (-1 ≤ p.z ∧ p.z ≤ 1) :=
  embed_coords_bounded embed_oct (by rw [oct_max1.1, oct_max1.2]; norm_num) (by rw [oct_max2.1, oct_max2.2]; norm_num)
    (by rw [oct_max3.1, oct_max3.2]; norm_num)

end LapyVerif.Props.C19
