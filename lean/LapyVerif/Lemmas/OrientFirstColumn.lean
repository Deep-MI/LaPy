import LapyVerif.Lemmas.OrientMesh
/-
  When is the first column `tmat[:,0]` a full vector with an entry `≠ ±1`?  Only for the two-triangle "pillow" whose
  triangles have the same three vertices.  (Then the `while` loop of `orient_` never runs and its `np.sign` is never
  applied.)
-/
namespace LapyVerif
namespace OrientFirstColumn
open Orient OrientLemmas OrientFlood OrientMesh

theorem edgeCounts_keys_nodup (ts : List Tri) : ((edgeCounts (halfEdgeRows ts)).map (·.1)).Nodup := by
  rw [edgeCounts_eq, List.map_map]
  exact (List.map_id _).symm ▸ List.nodup_eraseDups (undKeys ts)

theorem pairF_share {ts : List Tri} {kc : (Nat × Nat) × Nat} {p : Nat × Nat × Int}
    (h : pairF (halfEdgeRows ts) kc = some p) {k j : Nat} (hl : Link k j p = true) :
    ∃ (hk : k < ts.length) (hj : j < ts.length), kc.1 ∈ undEdges ts[k] ∧ kc.1 ∈ undEdges ts[j] := by
  obtain ⟨A, B, hA, hB, x, hx, y, hy, hxe, hye, _, rfl⟩ := pairF_anatomy h
  have mA : kc.1 ∈ undEdges ts[A] := hxe ▸ List.mem_map_of_mem hx
  have mB : kc.1 ∈ undEdges ts[B] := hye ▸ List.mem_map_of_mem hy
  simp only [Link, Bool.or_eq_true, Bool.and_eq_true, beq_iff_eq] at hl
  rcases hl with ⟨rfl, rfl⟩ | ⟨rfl, rfl⟩
  · exact ⟨hA, hB, mA, mB⟩
  · exact ⟨hB, hA, mB, mA⟩

/-- if `|tmat[k,j]| ≥ 2` for `k ≠ j` then the triangles `j` and `k` have two different common edges -/
theorem two_edges_of_M {ts : List Tri} {k j : Nat} (hkj : k ≠ j) (hM : 2 ≤ M (pairsOf ts) k j) :
    ∃ (hj : j < ts.length) (hk : k < ts.length) (e1 e2 : Nat × Nat), e1 ≠ e2 ∧
      e1 ∈ undEdges ts[j] ∧ e2 ∈ undEdges ts[j] ∧ e1 ∈ undEdges ts[k] ∧ e2 ∈ undEdges ts[k] := by
  unfold M at hM
  rw [if_neg (mt beq_iff_eq.1 hkj), Nat.add_zero] at hM
  -- two linking pairs come from two different entries of `edgeCounts`, whose keys are different
  have hkeys := edgeCounts_keys_nodup ts
  rw [show pairsOf ts = _ from neighbourPairs_eq _ _] at hM
  obtain ⟨x, y, b, c, hx, hy, hxy, hGx, hGy, hqb, hqc⟩ := Lemmas.two_of_filterMap hM (hkeys.of_map.filter _)
  have hne : x.1 ≠ y.1 := fun he =>
    hxy (List.inj_on_of_nodup_map hkeys (List.mem_filter.1 hx).1 (List.mem_filter.1 hy).1 he)
  obtain ⟨hk, hj, u3, u1⟩ := pairF_share hGx hqb
  obtain ⟨_, _, u4, u2⟩ := pairF_share hGy hqc
  exact ⟨hj, hk, x.1, y.1, hne, u1, u2, u3, u4⟩

theorem no_three {ts : List Tri} (hm : ∀ e, (undKeys ts).count e ≤ 2) {A B C : Nat} (hA : A < ts.length)
    (hB : B < ts.length) (hC : C < ts.length) (hAB : A ≠ B) (hAC : A ≠ C) (hBC : B ≠ C) {e : Nat × Nat}
    (heA : e ∈ undEdges ts[A]) (heB : e ∈ undEdges ts[B]) (heC : e ∈ undEdges ts[C]) : False := by
  obtain ⟨rA, rB, hiA, hiB, hcase⟩ := rowsAt_of_share hm hA hB hAB heA heB
  obtain ⟨rC, hrC, hiC⟩ := exists_row hC heC
  -- the row of `C` is one of the two rows
  have : rC = rA ∨ rC = rB := by
    rcases hcase with hc | hc <;> rw [hc] at hrC <;> simpa [or_comm] using hrC
  rcases this with rfl | rfl
  · exact hAC (hiA.symm.trans hiC)
  · exact hBC (hiB.symm.trans hiC)

theorem M_self {n : Nat} {pairs : List (Nat × Nat × Int)} {σ : Nat → Int} (h : PairsOK n pairs σ) (k : Nat) :
    M pairs k k = 1 := by
  unfold M
  have : pairs.filter (Link k k) = [] := by
    rw [List.filter_eq_nil_iff]
    intro p hp hl
    simp only [Link, Bool.or_self, Bool.and_eq_true, beq_iff_eq] at hl
    exact h.ne p hp (hl.1.trans hl.2.symm)
  simp [this]

/-- **The first column is harmless** unless the mesh is the two-triangle pillow on one vertex triple. -/
theorem column0_ok {ts : List Tri} {s : Nat → Bool} (h : MeshOK ts s)
    (hpillow : ∀ (h2 : ts.length = 2), ∃ x ∈ tverts (ts[0]'(by omega)), x ∉ tverts (ts[1]'(by omega))) :
    Norm (column ts.length (pairsOf ts) 0) ∨ (column ts.length (pairsOf ts) 0).length < ts.length := by
  by_cases hfull : (column ts.length (pairsOf ts) 0).length < ts.length
  · exact Or.inr hfull
  left
  have hP := pairsOK h
  have hidx := column_idxOK ts.length (pairsOf ts) 0
  rintro ⟨k, x⟩ hx
  have hkn : k < ts.length := hidx.lt hx
  have hpos : 0 < ts.length := by omega
  obtain ⟨hk, rfl⟩ := (mem_column hP hpos k x).1 hx
  have hMpos := (M_pos_iff (pairs := pairsOf ts) k 0).2 hk
  by_cases hM1 : M (pairsOf ts) k 0 = 1
  · simp only
    rw [tmatEntry_eq hP, hM1]
    simpa using pm_mul (hP.sgn k) (hP.sgn 0)
  exfalso
  have hM2 : 2 ≤ M (pairsOf ts) k 0 := by omega
  have hk0 : k ≠ 0 := by
    rintro rfl; exact hM1 (M_self hP 0)
  obtain ⟨h0, hk', e1, e2, hne, u1, u2, u3, u4⟩ := two_edges_of_M hk0 hM2
  have hd0 := h.distinct _ (List.getElem_mem h0)
  have hdk := h.distinct _ (List.getElem_mem hk')
  have hs := tverts_subset u1 u2 u3 u4 hne
  by_cases h2 : ts.length = 2
  · obtain ⟨x, hx0, hx1⟩ := hpillow h2
    obtain rfl : k = 1 := by omega
    exact hx1 (hs x hx0)
  · -- a third triangle `j` is adjacent to triangle 0 (full column), along an edge that triangle `k` has as well
    have hj : ∃ j, j ≠ 0 ∧ j ≠ k ∧ j < ts.length := by
      by_cases hk1 : k = 1
      · exact ⟨2, by omega, by omega, by omega⟩
      · exact ⟨1, by omega, by omega, by omega⟩
    obtain ⟨j, hj0, hjk, hjn⟩ := hj
    obtain ⟨hJ, _, e, he1, he2⟩ : Share ts j 0 := by
      by_contra hns
      exact hfull (column0_short h hj0 hjn hns)
    have a := (mem_undEdges_iff hd0 e).1 he2
    have he3 := (mem_undEdges_iff hdk e).2 ⟨a.1, hs _ a.2.1, hs _ a.2.2⟩
    exact no_three h.manifold h0 hk' hJ (Ne.symm hk0) (Ne.symm hj0) (Ne.symm hjk) he2 he3 he1

end OrientFirstColumn
end LapyVerif
