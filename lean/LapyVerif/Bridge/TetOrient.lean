import LapyVerif.Lemmas.BridgeTac
import LapyVerif.Model.TetTopo
import LapyVerif.Generated.TetOrient
/-
  Bridge: `TetMesh.orient_` / `TetMesh.is_oriented` (lapy/tet_mesh.py) traced on two tetrahedra sharing a face, `[[0,1,2,3],[1,3,2,4]]`, the
  first positively and the second negatively oriented at the concolic sample point: the quantities the code compares with zero are the model's
  `TetTopo.signedVol`, and under the recorded decisions the rewritten element array and the returned count are the model's `TetTopo.orient`.
-/
-- the closing `ring` runs only on entries that the traced code computes in another, algebraically equal form
set_option linter.unreachableTactic false
set_option linter.unusedTactic false
namespace LapyVerif.Bridge

def vtx5 (a b c d e : V3 ℝ) : Nat → V3 ℝ := fun i => match i with
  | 0 => a | 1 => b | 2 => c | 3 => d | _ => e

/-- the two volumes the code compares with zero -/
theorem tet_vols (v0 v1 v2 v3 v4 : V3 ℝ) :
    TetTopo.signedVol (vtx5 v0 v1 v2 v3 v4) (0, 1, 2, 3) = Gen.TetOrient.vol0 v0 v1 v2 v3 v4 ∧
    TetTopo.signedVol (vtx5 v0 v1 v2 v3 v4) (1, 3, 2, 4) = Gen.TetOrient.vol1 v0 v1 v2 v3 v4 := by
  constructor <;>
    v3_flat [TetTopo.signedVol, vtx5, Gen.TetOrient.vol0, Gen.TetOrient.vol1] <;>
    ring

/-- the recorded decisions are `¬ vol0 < 0` and `vol1 < 0` -/
theorem tet_pc (v0 v1 v2 v3 v4 : V3 ℝ) :
    Gen.TetOrient.pcOrient v0 v1 v2 v3 v4 ↔ (¬ Gen.TetOrient.vol0 v0 v1 v2 v3 v4 < 0 ∧ Gen.TetOrient.vol1 v0 v1 v2 v3 v4 < 0) :=
  Iff.rfl

/-- **`orient_`**: under the recorded decisions the model swaps vertices 1, 2 of exactly the second tetrahedron and returns 1 — what the code did -/
theorem tet_orient (v0 v1 v2 v3 v4 : V3 ℝ) (h : Gen.TetOrient.pcOrient v0 v1 v2 v3 v4) :
    TetTopo.orient (vtx5 v0 v1 v2 v3 v4) [(0, 1, 2, 3), (1, 3, 2, 4)] = (Gen.TetOrient.orientResult, Gen.TetOrient.orientCount) := by
  obtain ⟨h0, h1⟩ := (tet_pc v0 v1 v2 v3 v4).mp h
  rw [← (tet_vols v0 v1 v2 v3 v4).1] at h0
  rw [← (tet_vols v0 v1 v2 v3 v4).2] at h1
  simp only [TetTopo.orient, List.map_cons, List.map_nil, h0, h1, decide_false, decide_true, List.filter_cons,
    List.filter_nil, id, Bool.false_eq_true, if_false, if_true, List.length_cons, List.length_nil, List.zip_cons_cons,
    List.zip_nil_right, Gen.TetOrient.orientResult, Gen.TetOrient.orientCount]
  decide

/-- `is_oriented` answered False on the mixed pair, True after `orient_`, False on an all-negative pair -/
theorem tet_is_oriented_facts : Gen.TetOrient.isOrientedFacts = [("mixed", false), ("oriented", true), ("allneg", false)] := by decide

/-! ### census: how many data-dependent decisions the tracer recorded (a branch added to the source changes the number) -/
theorem census_TetOrient_pcOrientCount : Gen.TetOrient.pcOrientCount = 2 := rfl

end LapyVerif.Bridge
