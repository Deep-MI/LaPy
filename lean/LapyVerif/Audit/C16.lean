import LapyVerif.Props.C16
import LapyVerif.Bridge.Level
/- axiom audit of C16 (`level_length`, `level_path`) -/
#print axioms LapyVerif.Props.C16.isolated_spec
#print axioms LapyVerif.Props.C16.isolated_none_spec
#print axioms LapyVerif.Props.C16.isolated_spec_raw
#print axioms LapyVerif.Props.C16.crossPoint_on_level
#print axioms LapyVerif.Props.C16.crossPoint_param
#print axioms LapyVerif.Props.C16.crossPoint_eq
#print axioms LapyVerif.LevelLemmas.crossPoint_symm
#print axioms LapyVerif.Props.C16.segment_is_levelset
#print axioms LapyVerif.Props.C16.levelset_in_segment
#print axioms LapyVerif.Props.C16.mem_crossed_iff
#print axioms LapyVerif.Props.C16.crossed_alone
#print axioms LapyVerif.Props.C16.level_length_spec
#print axioms LapyVerif.Props.C16.level_length_sum_tri
#print axioms LapyVerif.Props.C16.pathData_points
#print axioms LapyVerif.Props.C16.pathData_edge_sorted
#print axioms LapyVerif.Props.C16.pathData_segs_spec
#print axioms LapyVerif.Props.C16.path_length_eq
#print axioms LapyVerif.Props.C16.interp_first
#print axioms LapyVerif.Props.C16.interp_last
#print axioms LapyVerif.Props.C16.interp_mid
#print axioms LapyVerif.Props.C16.resample_length
#print axioms LapyVerif.Props.C16.resample1_endpoints
#print axioms LapyVerif.Props.C16.resample1_equispaced
#print axioms LapyVerif.Props.C16.pointAt_on_segment
#print axioms LapyVerif.Props.C16.resample_endpoints
#print axioms LapyVerif.Props.C16.levelPath_valueError_iff
#print axioms LapyVerif.Props.C16.merge_eps
#print axioms LapyVerif.Props.C16.path_order
#print axioms LapyVerif.Props.C16.path_order_segments
#print axioms LapyVerif.Props.C16.level_path_order
#print axioms LapyVerif.Props.C16.levelLength_sq
#print axioms LapyVerif.Props.C16.levelPath_sq
#print axioms LapyVerif.Props.C16.isPath_sq
#print axioms LapyVerif.Props.C16.lerp_lerp
#print axioms LapyVerif.Props.C16.alone_params
#print axioms LapyVerif.LevelLemmas.interp_at
#print axioms LapyVerif.LevelLemmas.interp_right
#print axioms LapyVerif.LevelLemmas.cum_concat
#print axioms LapyVerif.LevelLemmas.scanl_add_mono
#print axioms LapyVerif.LevelLemmas.le_getLast_of_pairwise
#print axioms LapyVerif.Props.C16.levelPath_cases
#print axioms LapyVerif.LevelLemmas.segOf_eq_some
#print axioms LapyVerif.LevelLemmas.segOf_isSome
#print axioms LapyVerif.LevelLemmas.triasOf_getElem?
#print axioms LapyVerif.LevelLemmas.triasOf_length
#print axioms LapyVerif.LevelLemmas.flagsOf_length
#print axioms LapyVerif.LevelBfs.IsPath.getElem?_eq_some_iff
#print axioms LapyVerif.LevelBfs.bfs_path
#print axioms LapyVerif.LevelBfs.argsort_path
#print axioms LapyVerif.Bridge.crossed_A
#print axioms LapyVerif.Bridge.crossed_B
#print axioms LapyVerif.Bridge.level_length_A
#print axioms LapyVerif.Bridge.level_length_B
#print axioms LapyVerif.Bridge.level_lengths_A
#print axioms LapyVerif.Bridge.level_lengths_B
#print axioms LapyVerif.Bridge.census_LevelLength_pcACount
#print axioms LapyVerif.Bridge.census_LevelLength_pcBCount
