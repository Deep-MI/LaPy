import Mathlib.Tactic.Ring
import Mathlib.Tactic.Positivity
import Mathlib.Algebra.Order.BigOperators.Group.List
import Mathlib.Algebra.BigOperators.Ring.List
import LapyVerif.Lemmas.OrientLemmas
/-
  The flood of `orient_` on an abstract signed neighbour list `pairs` whose signs come from an orientation witness:
  `w(A,B) = σ A * σ B` with `σ = ±1`.  After the change of variables `x_k ↦ σ k * x_k` the matrix `tmat` is entrywise
  non-negative, so the flood never cancels, its support grows by one neighbour ring per step, and re-seeding (only
  when the support is closed under adjacency) starts a fresh component.
-/
namespace LapyVerif
namespace OrientFlood
open Orient

theorem sum_map_zero {α : Type} (l : List α) (f : α → Int) (hf : ∀ e ∈ l, f e = 0) : (l.map f).sum = 0 :=
  List.sum_eq_zero fun x hx => by
    obtain ⟨e, he, rfl⟩ := List.mem_map.1 hx
    exact hf e he

theorem pm_mul_self {c : Int} (h : c = 1 ∨ c = -1) : c * c = 1 :=
  mul_self_eq_one_iff.2 h

theorem pm_mul {a b : Int} (ha : a = 1 ∨ a = -1) (hb : b = 1 ∨ b = -1) : a * b = 1 ∨ a * b = -1 := by
  rcases ha with rfl | rfl <;> rcases hb with rfl | rfl <;> simp

/-- the filter predicate of `tmatEntry`: the pair joins `k` and `j`, in either order -/
def Link (k j : Nat) (p : Nat × Nat × Int) : Bool := (p.1 == k && p.2.1 == j) || (p.1 == j && p.2.1 == k)

/-- `σ` is an orientation witness for the signed pairs -/
structure PairsOK (n : Nat) (pairs : List (Nat × Nat × Int)) (σ : Nat → Int) : Prop where
  sgn : ∀ k, σ k = 1 ∨ σ k = -1
  lt : ∀ p ∈ pairs, p.1 < n ∧ p.2.1 < n
  ne : ∀ p ∈ pairs, p.1 ≠ p.2.1
  w : ∀ p ∈ pairs, p.2.2 = σ p.1 * σ p.2.1

def Adj (pairs : List (Nat × Nat × Int)) (k j : Nat) : Prop :=
  ∃ p ∈ pairs, (p.1 = k ∧ p.2.1 = j) ∨ (p.1 = j ∧ p.2.1 = k)

theorem Adj.symm {pairs : List (Nat × Nat × Int)} {k j : Nat} (h : Adj pairs k j) : Adj pairs j k := by
  obtain ⟨p, hp, h⟩ := h
  exact ⟨p, hp, h.symm⟩

theorem Adj.of_pairs {pairs : List (Nat × Nat × Int)} {R : Nat → Nat → Prop} (hsymm : ∀ a b, R a b → R b a)
    (hR : ∀ p ∈ pairs, R p.1 p.2.1) {k j : Nat} (h : Adj pairs k j) : R k j := by
  obtain ⟨p, hp, hk⟩ := h
  rcases hk with ⟨rfl, rfl⟩ | ⟨rfl, rfl⟩
  · exact hR p hp
  · exact hsymm _ _ (hR p hp)

/-- `|tmat[k,j]|` -/
def M (pairs : List (Nat × Nat × Int)) (k j : Nat) : Nat :=
  (pairs.filter (Link k j)).length + (if k == j then 1 else 0)

variable {n : Nat} {pairs : List (Nat × Nat × Int)} {σ : Nat → Int}

theorem tmatEntry_eq (h : PairsOK n pairs σ) (k j : Nat) :
    tmatEntry pairs k j = σ k * σ j * (M pairs k j : Int) := by
  -- every pair linking `k` and `j` carries the weight `σ k * σ j`
  have hw : ∀ p ∈ pairs.filter (Link k j), p.2.2 = σ k * σ j := by
    intro p hp
    rw [List.mem_filter] at hp
    rw [h.w p hp.1]
    simp only [Link, Bool.or_eq_true, Bool.and_eq_true, beq_iff_eq] at hp
    rcases hp.2 with ⟨h1, h2⟩ | ⟨h1, h2⟩
    · rw [h1, h2]
    · rw [h1, h2, Int.mul_comm]
  unfold tmatEntry M
  rw [show (pairs.filter fun p => (p.1 == k && p.2.1 == j) || (p.1 == j && p.2.1 == k)) = pairs.filter (Link k j) from rfl,
    List.map_congr_left hw, List.map_const', List.sum_replicate, nsmul_eq_mul]
  by_cases hkj : k = j
  · subst hkj
    simp only [BEq.rfl, ↓reduceIte, pm_mul_self (h.sgn k)]
    push_cast; ring
  · have : (k == j) = false := by simpa using hkj
    simp only [this, Bool.false_eq_true, ↓reduceIte]
    push_cast; ring

theorem M_pos_iff (k j : Nat) : 0 < M pairs k j ↔ k = j ∨ Adj pairs k j := by
  have hA : Adj pairs k j ↔ 0 < (pairs.filter (Link k j)).length := by
    simp only [Adj, List.length_pos_iff_exists_mem, List.mem_filter, Link, Bool.or_eq_true, Bool.and_eq_true,
      beq_iff_eq]
  rw [hA, M]
  by_cases hkj : k = j
  · rw [if_pos (beq_iff_eq.2 hkj)]
    exact ⟨fun _ => Or.inl hkj, fun _ => Nat.succ_pos _⟩
  · rw [if_neg (mt beq_iff_eq.1 hkj)]
    exact ⟨Or.inr, fun h => h.resolve_left hkj⟩

theorem mem_nbrs (k j : Nat) : k ∈ nbrs pairs j ↔ Adj pairs k j := by
  unfold nbrs Adj
  rw [List.mem_eraseDups, List.mem_filterMap]
  refine exists_congr fun p => and_congr_right fun _ => ?_
  by_cases h1 : p.1 = j <;> by_cases h2 : p.2.1 = j <;> simp [h1, h2]

theorem Adj.lt (h : PairsOK n pairs σ) {k j : Nat} (ha : Adj pairs k j) : k < n ∧ j < n :=
  ha.of_pairs (R := fun a b => a < n ∧ b < n) (fun _ _ => And.symm) h.lt

/-- a sign per triangle that is constant along neighbour pairs (hence on connected components) -/
structure Gauge (pairs : List (Nat × Nat × Int)) (g : Nat → Int) : Prop where
  sgn : ∀ k, g k = 1 ∨ g k = -1
  const : ∀ p ∈ pairs, g p.1 = g p.2.1

theorem Gauge.adj {g : Nat → Int} (hg : Gauge pairs g) {k j : Nat} (h : Adj pairs k j) : g k = g j :=
  h.of_pairs (R := fun a b => g a = g b) (fun _ _ => Eq.symm) hg.const

/-- every stored value has the sign of the witness (in particular it is not zero) -/
def Pos (σ : Nat → Int) (v : SVec) : Prop := ∀ e ∈ v, 0 < σ e.1 * e.2

/-- every stored value has the sign `σ k * g k`: by `Iff.rfl` this is `Pos` in `σ * g`, a witness again
    (`PairsOK.mul`), so the facts about `step` speak of one witness and know nothing of gauges -/
def Inv (σ g : Nat → Int) (v : SVec) : Prop := ∀ e ∈ v, 0 < σ e.1 * g e.1 * e.2
/-- all stored values are `±1` (true after a `step`, not for a column: a column may store `±3`) -/
def Norm (v : SVec) : Prop := ∀ e ∈ v, e.2 = 1 ∨ e.2 = -1
/-- the stored indices; the model and `IdxOK` write `v.map (·.1)` -/
def supp (v : SVec) : List Nat := v.map (·.1)
/-- `k` is in the support of `v` or adjacent to it -/
def Touch (pairs : List (Nat × Nat × Int)) (v : SVec) (k : Nat) : Prop := ∃ e ∈ v, 0 < M pairs k e.1

theorem touch_iff (v : SVec) (k : Nat) : Touch pairs v k ↔ k ∈ supp v ∨ ∃ j ∈ supp v, Adj pairs k j := by
  unfold Touch supp
  simp only [M_pos_iff, List.mem_map]
  constructor
  · rintro ⟨e, he, rfl | h⟩
    · exact Or.inl ⟨e, he, rfl⟩
    · exact Or.inr ⟨e.1, ⟨e, he, rfl⟩, h⟩
  · rintro (⟨e, he, rfl⟩ | ⟨j, ⟨e, he, rfl⟩, h⟩)
    · exact ⟨e, he, Or.inl rfl⟩
    · exact ⟨e, he, Or.inr h⟩

/-- the sum `Σ_j |tmat[k,j]| · (σ j g j v_j)`, non-negative under `Inv` (`Q_nonneg`); the proofs below write the sum of
    one witness out (`stepSum_eq`, `gaugedSum_pos`) and do not go through it -/
def Q (pairs : List (Nat × Nat × Int)) (σ g : Nat → Int) (v : SVec) (k : Nat) : Int :=
  (v.map fun e => (M pairs k e.1 : Int) * (σ e.1 * g e.1 * e.2)).sum

/-- a gauge can be absorbed into the orientation witness: along a pair `g` is constant and `g * g = 1` -/
theorem PairsOK.mul (h : PairsOK n pairs σ) {g : Nat → Int} (hg : Gauge pairs g) :
    PairsOK n pairs fun k => σ k * g k where
  sgn k := pm_mul (h.sgn k) (hg.sgn k)
  lt := h.lt
  ne := h.ne
  w p hp := by
    have := pm_mul_self (hg.sgn p.2.1)
    rw [h.w p hp, hg.const p hp]
    calc σ p.1 * σ p.2.1 = σ p.1 * σ p.2.1 * (g p.2.1 * g p.2.1) := by rw [this, Int.mul_one]
      _ = _ := by ring

theorem Q_nonneg {g : Nat → Int} {v : SVec} (hinv : Inv σ g v) (k : Nat) : 0 ≤ Q pairs σ g v k :=
  List.sum_nonneg (List.forall_mem_map.2 fun e he => by
    have := hinv e he
    positivity)

/-- row `k` of `tmat * v` is `σ k` times a sum of terms `|tmat[k,j]| · (σ j v_j)`, each non-negative under `Pos σ v` -/
theorem stepSum_eq (h : PairsOK n pairs σ) (v : SVec) (k : Nat) :
    (v.map fun e => tmatEntry pairs k e.1 * e.2).sum
      = σ k * (v.map fun e => (M pairs k e.1 : Int) * (σ e.1 * e.2)).sum := by
  rw [← List.sum_map_mul_left]
  refine congrArg List.sum (List.map_congr_left fun e _ => ?_)
  rw [tmatEntry_eq h]
  ring

theorem gaugedSum_pos {v : SVec} (hpos : Pos σ v) {k : Nat} (ht : Touch pairs v k) :
    0 < (v.map fun e => (M pairs k e.1 : Int) * (σ e.1 * e.2)).sum := by
  obtain ⟨e, he, hM⟩ := ht
  have hnn : ∀ x ∈ v.map (fun e => (M pairs k e.1 : Int) * (σ e.1 * e.2)), 0 ≤ x :=
    List.forall_mem_map.2 fun e he => by
      have := hpos e he
      positivity
  refine lt_of_lt_of_le ?_ (List.single_le_sum hnn _ (List.mem_map_of_mem he))
  have := hpos e he
  have : (0 : Int) < (M pairs k e.1 : Int) := by exact_mod_cast hM
  positivity

theorem stepVal (h : PairsOK n pairs σ) {v : SVec} (hpos : Pos σ v) {k : Nat} (ht : Touch pairs v k) :
    (v.map fun e => tmatEntry pairs k e.1 * e.2).sum ≠ 0 ∧
      Int.sign (v.map fun e => tmatEntry pairs k e.1 * e.2).sum = σ k := by
  rw [stepSum_eq h]
  have hq := gaugedSum_pos (pairs := pairs) hpos ht
  constructor
  · rcases h.sgn k with hc | hc <;> rw [hc] <;> omega
  · rw [Int.sign_mul, Int.sign_eq_one_of_pos hq]
    rcases h.sgn k with hc | hc <;> rw [hc] <;> simp

theorem support_contains (v : SVec) (k : Nat) :
    (((v.map (·.1)) ++ (v.flatMap fun e => nbrs pairs e.1)).eraseDups.contains k) = true ↔ Touch pairs v k := by
  rw [List.contains_iff_mem, List.mem_eraseDups, List.mem_append, touch_iff, List.mem_flatMap]
  unfold supp
  constructor
  · rintro (h1 | ⟨e, he, h2⟩)
    · exact Or.inl h1
    · exact Or.inr ⟨e.1, List.mem_map_of_mem he, (mem_nbrs _ _).1 h2⟩
  · rintro (h1 | ⟨j, hj, h2⟩)
    · exact Or.inl h1
    · obtain ⟨e, he, rfl⟩ := List.mem_map.1 hj
      exact Or.inr ⟨e, he, (mem_nbrs _ _).2 h2⟩

open OrientLemmas

/-- one step stores exactly the touched indices, each with the sign of the witness -/
theorem mem_step (h : PairsOK n pairs σ) {v : SVec} (hpos : Pos σ v) (k : Nat) (x : Int) :
    (k, x) ∈ step n pairs v ↔ k < n ∧ Touch pairs v k ∧ x = σ k := by
  rw [step, mem_filterMap_range fun k e h => by dsimp only at h; grind]
  refine and_congr_right fun _ => ?_
  dsimp only
  by_cases ht : Touch pairs v k
  · obtain ⟨h0, hs⟩ := stepVal h hpos ht
    rw [if_pos ((support_contains v k).2 ht), if_neg (by simpa using h0), hs]
    simp [ht, eq_comm]
  · rw [if_neg fun hc => ht ((support_contains v k).1 hc)]
    simp [ht]

theorem step_pos_norm (h : PairsOK n pairs σ) {v : SVec} (hpos : Pos σ v) :
    Pos σ (step n pairs v) ∧ Norm (step n pairs v) := by
  constructor
  · rintro ⟨k, x⟩ he
    obtain ⟨_, _, rfl⟩ := (mem_step h hpos k x).1 he
    have := pm_mul_self (h.sgn k)
    show 0 < σ k * σ k
    omega
  · rintro ⟨k, x⟩ he
    obtain ⟨_, _, rfl⟩ := (mem_step h hpos k x).1 he
    exact h.sgn k

theorem mem_supp {v : SVec} {k : Nat} : k ∈ supp v ↔ ∃ x, (k, x) ∈ v := by
  unfold supp
  rw [List.mem_map]
  constructor
  · rintro ⟨⟨k', x⟩, he, rfl⟩; exact ⟨x, he⟩
  · rintro ⟨x, he⟩; exact ⟨(k, x), he, rfl⟩

theorem supp_step (h : PairsOK n pairs σ) {v : SVec} (hpos : Pos σ v) (k : Nat) :
    k ∈ supp (step n pairs v) ↔ k < n ∧ Touch pairs v k := by
  rw [mem_supp]
  constructor
  · rintro ⟨x, hx⟩
    obtain ⟨h1, h2, _⟩ := (mem_step h hpos k x).1 hx
    exact ⟨h1, h2⟩
  · rintro ⟨h1, h2⟩
    exact ⟨_, (mem_step h hpos k _).2 ⟨h1, h2, rfl⟩⟩

theorem supp_subset_step (h : PairsOK n pairs σ) {v : SVec} (hpos : Pos σ v) (hv : IdxOK n v) :
    supp v ⊆ supp (step n pairs v) := by
  intro k hk
  rw [supp_step h hpos]
  refine ⟨List.mem_range.1 (hv.subset hk), (touch_iff v k).2 (Or.inl hk)⟩

/-- the support is a union of components -/
def Closed (pairs : List (Nat × Nat × Int)) (v : SVec) : Prop := ∀ k ∈ supp v, ∀ j, Adj pairs k j → j ∈ supp v

theorem step_progress (h : PairsOK n pairs σ) {v : SVec} (hpos : Pos σ v) (hv : IdxOK n v) :
    v.length ≤ (step n pairs v).length ∧
      ((step n pairs v).length = v.length → Closed pairs (step n pairs v)) := by
  have hsub := List.subperm_of_subset hv.nodup (supp_subset_step h hpos hv)
  refine ⟨by simpa [supp] using hsub.length_le, fun hlen k hk j hadj => ?_⟩
  -- equal lengths: the step stores no new index, so `k` was stored before and touches its neighbour `j`
  have hback := (hsub.perm_of_length_le (by simp [supp, hlen])).symm.subset
  rw [supp_step h hpos]
  exact ⟨(hadj.lt h).2, (touch_iff v j).2 (Or.inr ⟨k, hback hk, hadj.symm⟩)⟩

theorem get_cons (e : Nat × Int) (v : SVec) (k : Nat) :
    SVec.get (e :: v) k = (if e.1 == k then e.2 else 0) + SVec.get v k := by
  unfold SVec.get
  rw [List.filter_cons]
  split <;> simp

theorem get_of_not_mem {v : SVec} {k : Nat} (hk : k ∉ supp v) : SVec.get v k = 0 := by
  rw [SVec.get, List.filter_eq_nil_iff.2 fun e he h => hk (List.mem_map.2 ⟨e, he, by simpa using h⟩)]
  rfl

theorem get_of_mem {v : SVec} {k : Nat} {x : Int} (hnd : (supp v).Nodup) (hk : (k, x) ∈ v) : SVec.get v k = x := by
  induction v with
  | nil => cases hk
  | cons e v ih =>
    rw [get_cons]
    simp only [supp, List.map_cons, List.nodup_cons] at hnd
    rcases List.mem_cons.1 hk with rfl | hk'
    · rw [get_of_not_mem hnd.1]; simp
    · have hne : e.1 ≠ k := fun h => hnd.1 (h ▸ List.mem_map_of_mem (f := (·.1)) hk')
      have : (e.1 == k) = false := by simpa using hne
      rw [this, ih hnd.2 hk']; simp

theorem tmatEntry_pos (h : PairsOK n pairs σ) {k j : Nat} (hk : k = j ∨ Adj pairs k j) :
    0 < σ k * σ j * tmatEntry pairs k j := by
  rw [tmatEntry_eq h]
  have hM : (0 : Int) < (M pairs k j : Int) := by exact_mod_cast (M_pos_iff k j).2 hk
  have := pm_mul_self (pm_mul (h.sgn k) (h.sgn j))
  calc (0 : Int) < (M pairs k j : Int) := hM
    _ = (σ k * σ j * (σ k * σ j)) * (M pairs k j : Int) := by rw [this]; ring
    _ = _ := by ring

theorem mem_column (h : PairsOK n pairs σ) {seed : Nat} (hseed : seed < n) (k : Nat) (x : Int) :
    (k, x) ∈ column n pairs seed ↔ (k = seed ∨ Adj pairs k seed) ∧ x = tmatEntry pairs k seed := by
  rw [column, mem_filterMap_range fun k e h => by dsimp only at h; grind]
  simp only [Option.ite_none_right_eq_some, Option.some.injEq, Prod.mk.injEq, true_and, Bool.and_eq_true,
    Bool.or_eq_true, beq_iff_eq, List.contains_iff_mem, mem_nbrs, bne_iff_ne]
  constructor
  · rintro ⟨_, ⟨hk, _⟩, rfl⟩
    exact ⟨hk, rfl⟩
  · rintro ⟨hk, rfl⟩
    refine ⟨?_, ⟨hk, fun h0 => ?_⟩, rfl⟩
    · rcases hk with rfl | hk
      · exact hseed
      · exact (hk.lt h).1
    · have := tmatEntry_pos h hk
      rw [h0] at this
      simp at this

theorem column_pos (h : PairsOK n pairs σ) {seed : Nat} (hseed : seed < n) {k : Nat} {x : Int}
    (hk : (k, x) ∈ column n pairs seed) : 0 < σ k * σ seed * x := by
  obtain ⟨hk2, rfl⟩ := (mem_column h hseed k x).1 hk
  exact tmatEntry_pos h hk2

theorem mem_addVec (a b : SVec) (k : Nat) (x : Int) :
    (k, x) ∈ addVec n a b ↔ k < n ∧ (k ∈ supp a ∨ k ∈ supp b) ∧ x = SVec.get a k + SVec.get b k ∧ x ≠ 0 := by
  rw [addVec, mem_filterMap_range fun k e h => by dsimp only at h; grind]
  simp only [supp, Option.ite_none_right_eq_some, Option.some.injEq, Prod.mk.injEq, true_and, Bool.and_eq_true,
    Bool.or_eq_true, List.contains_iff_mem, bne_iff_ne]
  constructor
  · rintro ⟨hk, ⟨hs, h0⟩, rfl⟩
    exact ⟨hk, hs, rfl, h0⟩
  · rintro ⟨hk, hs, rfl, h0⟩
    exact ⟨hk, ⟨hs, h0⟩, rfl⟩

theorem inv_ne_zero {g : Nat → Int} {v : SVec} (hinv : Inv σ g v) {e : Nat × Int} (he : e ∈ v) : e.2 ≠ 0 := by
  intro h0
  have := hinv e he
  rw [h0] at this
  simp at this

theorem mem_addVec_disjoint {a b : SVec} (ha : IdxOK n a) (hb : IdxOK n b) (hdisj : ∀ k ∈ supp a, k ∉ supp b)
    (ha0 : ∀ e ∈ a, e.2 ≠ 0) (hb0 : ∀ e ∈ b, e.2 ≠ 0) (k : Nat) (x : Int) :
    (k, x) ∈ addVec n a b ↔ (k, x) ∈ a ∨ (k, x) ∈ b := by
  rw [mem_addVec]
  constructor
  · rintro ⟨_, hor, rfl, _⟩
    by_cases hka : k ∈ supp a
    · obtain ⟨y, hy⟩ := mem_supp.1 hka
      rw [get_of_mem ha.nodup hy, get_of_not_mem (hdisj k hka), Int.add_zero]
      exact Or.inl hy
    · obtain ⟨y, hy⟩ := mem_supp.1 (hor.resolve_left hka)
      rw [get_of_not_mem hka, get_of_mem hb.nodup hy, Int.zero_add]
      exact Or.inr hy
  · rintro (h | h)
    · have hka := mem_supp.2 ⟨x, h⟩
      exact ⟨List.mem_range.1 (ha.subset hka), Or.inl hka,
        by rw [get_of_mem ha.nodup h, get_of_not_mem (hdisj k hka), Int.add_zero], ha0 _ h⟩
    · have hkb := mem_supp.2 ⟨x, h⟩
      have hka : k ∉ supp a := fun hka => hdisj k hka hkb
      exact ⟨List.mem_range.1 (hb.subset hkb), Or.inr hkb,
        by rw [get_of_not_mem hka, get_of_mem hb.nodup h, Int.zero_add], hb0 _ h⟩

theorem reseed (h : PairsOK n pairs σ) {g : Nat → Int} (hg : Gauge pairs g) {v : SVec} (hinv : Inv σ g v)
    (hv : IdxOK n v) (hcl : Closed pairs v) {seed : Nat} (hseed : seed < n) (hns : seed ∉ supp v) :
    ∃ g', Gauge pairs g' ∧ Inv σ g' (addVec n v (column n pairs seed)) ∧
      v.length + 1 ≤ (addVec n v (column n pairs seed)).length := by
  -- the column of `seed` lives on `seed` and its neighbours, none of which is reached: the sum keeps both vectors
  have hdisj : ∀ k ∈ supp v, k ∉ supp (column n pairs seed) := by
    intro k hk hc
    obtain ⟨x, hx⟩ := mem_supp.1 hc
    rcases ((mem_column h hseed k x).1 hx).1 with rfl | hadj
    · exact hns hk
    · exact hns (hcl k hk seed hadj)
  have hmem := mem_addVec_disjoint hv (column_idxOK n pairs seed) hdisj (fun e he => inv_ne_zero hinv he)
    fun e he h0 => by
      have := column_pos h hseed (k := e.1) (x := e.2) he
      rw [h0] at this
      simp at this
  -- the new gauge: the old one on the support, the sign of `seed` elsewhere
  refine ⟨fun k => if k ∈ supp v then g k else σ seed, ⟨?_, ?_⟩, ?_, ?_⟩
  · intro k
    split
    · exact hg.sgn k
    · exact h.sgn seed
  · intro p hp
    have hadj : Adj pairs p.1 p.2.1 := ⟨p, hp, Or.inl ⟨rfl, rfl⟩⟩
    by_cases h1 : p.1 ∈ supp v
    · rw [if_pos h1, if_pos (hcl _ h1 _ hadj)]; exact hg.const p hp
    · have h2 : p.2.1 ∉ supp v := fun h2 => h1 (hcl _ h2 _ hadj.symm)
      rw [if_neg h1, if_neg h2]
  · rintro ⟨k, x⟩ he
    dsimp only
    rcases (hmem k x).1 he with h1 | h1
    · rw [if_pos (mem_supp.2 ⟨x, h1⟩)]
      exact hinv _ h1
    · rw [if_neg fun hk => hdisj k hk (mem_supp.2 ⟨x, h1⟩)]
      exact column_pos h hseed h1
  · have hsub : (seed :: supp v) ⊆ supp (addVec n v (column n pairs seed)) := by
      intro k hk
      rcases List.mem_cons.1 hk with rfl | hk
      · exact mem_supp.2 ⟨_, (hmem k _).2 (Or.inr ((mem_column h hseed k _).2 ⟨Or.inl rfl, rfl⟩))⟩
      · obtain ⟨x, hx⟩ := mem_supp.1 hk
        exact mem_supp.2 ⟨x, (hmem k x).2 (Or.inl hx)⟩
    have := (List.subperm_of_subset (List.nodup_cons.2 ⟨hns, hv.nodup⟩) hsub).length_le
    simpa [supp] using this

theorem exists_seed {v : SVec} (hlt : v.length < n) :
    ∃ seed, (List.range n).find? (fun k => !(v.map (·.1)).contains k) = some seed ∧ seed < n ∧ seed ∉ supp v := by
  cases hf : (List.range n).find? (fun k => !(v.map (·.1)).contains k) with
  | none =>
    -- every index below `n` is stored: `range n` is duplicate-free
    have := List.nodup_range.length_le_of_subset (l₂ := supp v) fun k hk => by
      simpa only [supp, Bool.not_eq_true, Bool.not_eq_false', List.contains_iff_mem] using
        List.find?_eq_none.1 hf k hk
    simp [supp] at this
    omega
  | some seed =>
    refine ⟨seed, rfl, List.mem_range.1 (List.mem_of_find?_eq_some hf), fun hm => ?_⟩
    have := List.find?_some hf
    rw [List.contains_iff_mem.2 (show seed ∈ v.map (·.1) from hm)] at this
    cases this

/-- The loop of `flood`, with `nlast` the length before the previous step ("stalled" means `v.length = nlast`).
    Invariants: `v` is positive in some witness `σ * g`; a stalled `v` has a closed support (so the re-seeding that
    follows starts a new component); `v` is `±1`-valued unless it is the first column (then it is short, `h0` of
    `flood_spec`: a full first column with an entry `±3` would end the loop before any `np.sign`).
    Fuel: `2 * (n - v.length) + (0 if stalled else 1) < fuel`.  A stalled round re-seeds and gains at least one entry;
    a round that is not stalled gains an entry or becomes stalled; either way the measure drops. -/
theorem flood_spec_aux (h : PairsOK n pairs σ) (fuel : Nat) : ∀ (v : SVec) (nlast : Nat),
    IdxOK n v → (∃ g, Gauge pairs g ∧ Inv σ g v) → (v.length = nlast → Closed pairs v) → (Norm v ∨ v.length < n) →
    2 * (n - v.length) + (if v.length = nlast then 0 else 1) < fuel →
    ∃ v', flood n pairs fuel v nlast = some v' ∧ IdxOK n v' ∧ v'.length = n ∧ (∃ g, Gauge pairs g ∧ Inv σ g v') ∧
      Norm v' := by
  induction fuel with
  | zero => intro v nlast _ _ _ _ hf; omega
  | succ fuel ih =>
    intro v nlast hv hg hcl hnorm hf
    rw [flood]
    by_cases hlt : v.length < n
    · rw [if_pos hlt]
      dsimp only
      obtain ⟨g, hg, hinv⟩ := hg
      -- the round from `v1` (`v`, or `v` re-seeded): the step keeps the invariant and does not shrink the vector
      have round : ∀ v1 g1, Gauge pairs g1 → Inv σ g1 v1 → IdxOK n v1 → 2 * (n - v1.length) < fuel →
          ∃ v', flood n pairs fuel (step n pairs v1) v1.length = some v' ∧ IdxOK n v' ∧ v'.length = n ∧
            (∃ g, Gauge pairs g ∧ Inv σ g v') ∧ Norm v' := by
        intro v1 g1 hg1 hinv1 hv1 hf1
        obtain ⟨hge, hcl1⟩ := step_progress (h.mul hg1) hinv1 hv1
        have hle := (step_idxOK n pairs v1).length_le
        have hsn := step_pos_norm (h.mul hg1) hinv1
        apply ih _ _ (step_idxOK _ _ _) ⟨g1, hg1, hsn.1⟩ hcl1 (Or.inl hsn.2)
        split <;> omega
      by_cases hst : v.length = nlast
      · rw [if_pos hst] at hf
        obtain ⟨seed, hfind, hseed, hns⟩ := exists_seed hlt
        rw [if_pos (by simpa using hst), hfind]
        dsimp only
        obtain ⟨g', hg', hinv', hlen⟩ := reseed h hg hinv hv (hcl hst) hseed hns
        exact round _ g' hg' hinv' (addVec_idxOK n v (column n pairs seed)) (by omega)
      · rw [if_neg hst] at hf
        rw [if_neg (by simpa using hst)]
        exact round v g hg hinv hv (by omega)
    · rw [if_neg hlt]
      have := hv.length_le
      refine ⟨v, rfl, hv, by omega, hg, ?_⟩
      rcases hnorm with hn | hn
      · exact hn
      · exact absurd hn hlt

theorem eq_of_mul_pos {c x : Int} (hc : c = 1 ∨ c = -1) (hx : x = 1 ∨ x = -1) (h : 0 < c * x) : x = c := by
  rcases hc with rfl | rfl <;> rcases hx with rfl | rfl <;> first | rfl | exact absurd h (by decide)

/-- **Flood theorem.**  With fuel `2n+2` the flood started from column 0 returns a vector with full support whose
    value at `k` is `σ k * g k`: the orientation witness up to a sign `g` that is constant along neighbour pairs. -/
theorem flood_spec (h : PairsOK n pairs σ) (hn : 0 < n)
    (h0 : Norm (column n pairs 0) ∨ (column n pairs 0).length < n) :
    ∃ v g, flood n pairs (2 * n + 2) (column n pairs 0) 0 = some v ∧ v.map (·.1) = List.range n ∧
      Gauge pairs g ∧ ∀ e ∈ v, e.2 = σ e.1 * g e.1 := by
  have hmem : (0, tmatEntry pairs 0 0) ∈ column n pairs 0 := (mem_column h hn 0 _).2 ⟨Or.inl rfl, rfl⟩
  have hpos : 0 < (column n pairs 0).length := List.length_pos_of_mem hmem
  obtain ⟨v, hfl, hidx, hlen, ⟨g, hg, hinv⟩, hnorm⟩ :=
    flood_spec_aux h (2 * n + 2) (column n pairs 0) 0 (column_idxOK _ _ _)
      ⟨fun _ => σ 0, ⟨fun _ => h.sgn 0, fun _ _ => rfl⟩, fun e he => column_pos h hn he⟩ (fun hl => by omega) h0
      (by split <;> omega)
  exact ⟨v, g, hfl, hidx.eq_range hlen.ge, hg,
    fun e he => eq_of_mul_pos (pm_mul (h.sgn e.1) (hg.sgn e.1)) (hnorm e he) (hinv e he)⟩

end OrientFlood
end LapyVerif
