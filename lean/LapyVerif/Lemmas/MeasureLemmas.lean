import LapyVerif.Spec.Grad
import LapyVerif.Model.Measures
import LapyVerif.Model.Orient
/-
  What the proofs use of `Model/Measures` without unfolding it.

  `volume` looks at the triangle list through `isClosed`, `isOriented` and, where both hold, `volumeSum`
  (`volume_of_not_closed`, `volume_of_unoriented`, `volume_of_closed_oriented`, `volume_congr`); `volumeSum` is a sum
  of `volTerm`s.  The code writes the area of a triangle in five ways: Heron (`C13.heron_eq_cross`), `crossArea`
  (here), the weight inside `centroid` (`C13.centroid_eq`, `C19.areaC_eq_triArea`), `Fem.triVol / 4`
  (`FemTri.triVol_eq`), `DiffGeo.triNormalLen / 2` (`C06.triNormalLen_eq`); each is `Spec.triArea`.
-/
namespace LapyVerif.Measures
open V3

section guards
variable {K : Type} [Zero K] [Add K] [Sub K] [Mul K] [Div K] [NatCast K]

theorem volume_of_not_closed (vtx : Nat → V3 K) {ts : List Tri} (h : Topo.isClosed ts = false) :
    volume vtx ts = .ok 0 := by
  simp [volume, h]

theorem volume_of_unoriented (vtx : Nat → V3 K) {ts : List Tri} (hc : Topo.isClosed ts = true)
    (ho : Topo.isOriented ts = false) : volume vtx ts = .error "ValueError" := by
  simp [volume, hc, ho]

theorem volume_of_closed_oriented (vtx : Nat → V3 K) {ts : List Tri} (hc : Topo.isClosed ts = true)
    (ho : Topo.isOriented ts = true) : volume vtx ts = .ok (volumeSum vtx ts) := by
  simp [volume, hc, ho]

/-- on a closed mesh `volume` returns a value only if the mesh is oriented, and then the divergence sum -/
theorem volume_ok_of_closed {vtx : Nat → V3 K} {ts : List Tri} {vol : K} (hc : Topo.isClosed ts = true)
    (h : volume vtx ts = .ok vol) : Topo.isOriented ts = true ∧ vol = volumeSum vtx ts := by
  cases ho : Topo.isOriented ts
  · rw [volume_of_unoriented vtx hc ho] at h; cases h
  · rw [volume_of_closed_oriented vtx hc ho] at h; cases h; exact ⟨rfl, rfl⟩

/-- two meshes with the same two flags, and the same divergence sum where both flags hold, have the same `volume()` -/
theorem volume_congr {vtx vtx' : Nat → V3 K} {ts ts' : List Tri} (hc : Topo.isClosed ts' = Topo.isClosed ts)
    (ho : Topo.isOriented ts' = Topo.isOriented ts)
    (hv : Topo.isClosed ts = true → Topo.isOriented ts = true → volumeSum vtx' ts' = volumeSum vtx ts) :
    volume vtx' ts' = volume vtx ts := by
  cases hc0 : Topo.isClosed ts
  · rw [volume_of_not_closed vtx hc0, volume_of_not_closed vtx' (hc.trans hc0)]
  · cases ho0 : Topo.isOriented ts
    · rw [volume_of_unoriented vtx hc0 ho0, volume_of_unoriented vtx' (hc.trans hc0) (ho.trans ho0)]
    · rw [volume_of_closed_oriented vtx hc0 ho0, volume_of_closed_oriented vtx' (hc.trans hc0) (ho.trans ho0),
        hv hc0 ho0]

end guards

/-- the summand of the divergence-theorem volume -/
noncomputable def volTerm (vtx : Nat → V3 ℝ) (τ : Tri) : ℝ :=
  dot (vtx τ.1) (cross (vtx τ.2.1 - vtx τ.1) (vtx τ.2.2 - vtx τ.1))

theorem volumeSum_eq (vtx : Nat → V3 ℝ) (ts : List Tri) : volumeSum vtx ts = (ts.map (volTerm vtx)).sum / 6 := by
  simp only [volumeSum, c, Nat.cast_ofNat]; rfl

theorem volTerm_swap12 (vtx : Nat → V3 ℝ) (τ : Tri) : volTerm vtx (Orient.swap12 τ) = -volTerm vtx τ := by
  rw [volTerm, volTerm, Orient.swap12, cross_anticomm, dot_neg_right]

theorem volumeSum_swap12 (vtx : Nat → V3 ℝ) (ts : List Tri) :
    volumeSum vtx (ts.map Orient.swap12) = -volumeSum vtx ts := by
  rw [volumeSum_eq, volumeSum_eq, List.map_map, ← neg_div, neg_eq_neg_one_mul, ← List.sum_map_mul_left]
  exact congrArg (· / 6) (congrArg List.sum (List.map_congr_left fun τ _ => by
    rw [Function.comp_apply, volTerm_swap12, neg_one_mul]))

/-! ### the area of a triangle as the code spells it -/

theorem crossArea_eq (v0 v1 v2 : V3 ℝ) : crossArea v0 v1 v2 = Spec.triArea v0 v1 v2 := by
  simp only [crossArea, Spec.triArea, Spec.triN, c, sqrt_real, Nat.cast_one, Nat.cast_ofNat]
  ring

end LapyVerif.Measures
