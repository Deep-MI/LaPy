import LapyVerif.Lemmas.BridgeTac
import LapyVerif.Bridge.Tetra
import LapyVerif.Model.Level
import LapyVerif.Generated.LevelLength
/-
  Bridge: `TriaMesh.level_length` traced on the boundary of a generic tetrahedron, for two crossing patterns, is the model's
  `Level.levelLength` under the recorded path condition (the comparisons `vfunc[t] > level` the code asked for).
  Pattern A: vertex 0 alone above the level (three crossed triangles, each with one flag set).
  Pattern B: vertices 0 and 1 above (four crossed triangles; two of them go through the "invert the flags" branch).
-/
namespace LapyVerif.Bridge

def fn4 (f0 f1 f2 f3 : ℝ) : Nat → ℝ := fun i => match i with
  | 0 => f0 | 1 => f1 | 2 => f2 | _ => f3

theorem fn4_0 (f0 f1 f2 f3 : ℝ) : fn4 f0 f1 f2 f3 0 = f0 := rfl
theorem fn4_1 (f0 f1 f2 f3 : ℝ) : fn4 f0 f1 f2 f3 1 = f1 := rfl
theorem fn4_2 (f0 f1 f2 f3 : ℝ) : fn4 f0 f1 f2 f3 2 = f2 := rfl
theorem fn4_3 (f0 f1 f2 f3 : ℝ) : fn4 f0 f1 f2 f3 3 = f3 := rfl
theorem vtx4_0 (a b c d : V3 ℝ) : vtx4 a b c d 0 = a := rfl
theorem vtx4_1 (a b c d : V3 ℝ) : vtx4 a b c d 1 = b := rfl
theorem vtx4_2 (a b c d : V3 ℝ) : vtx4 a b c d 2 = c := rfl
theorem vtx4_3 (a b c d : V3 ℝ) : vtx4 a b c d 3 = d := rfl

/-- the level separates vertex 0 from the rest: three triangles are crossed, each with corner 0 isolated -/
theorem crossed_A {f0 f1 f2 f3 lev : ℝ} (h0 : lev < f0) (h1 : ¬ lev < f1) (h2 : ¬ lev < f2) (h3 : ¬ lev < f3) :
    Level.crossed T4 (fn4 f0 f1 f2 f3) lev = [(0, 0, 1, 2), (1, 0, 3, 1), (2, 0, 2, 3)] := by
  simp only [Level.crossed, T4, List.zipIdx_cons, List.zipIdx_nil, List.filterMap_cons, List.filterMap_nil, Level.isolated,
    fn4_0, fn4_1, fn4_2, fn4_3, h0, h1, h2, h3, decide_true, decide_false, Bool.toNat_true, Bool.toNat_false]
  rfl

/-- the level separates vertices 0, 1 from 2, 3: all four triangles are crossed -/
theorem crossed_B {f0 f1 f2 f3 lev : ℝ} (h0 : lev < f0) (h1 : lev < f1) (h2 : ¬ lev < f2) (h3 : ¬ lev < f3) :
    Level.crossed T4 (fn4 f0 f1 f2 f3) lev = [(0, 2, 0, 1), (1, 3, 1, 0), (2, 0, 2, 3), (3, 1, 3, 2)] := by
  simp only [Level.crossed, T4, List.zipIdx_cons, List.zipIdx_nil, List.filterMap_cons, List.filterMap_nil, Level.isolated,
    fn4_0, fn4_1, fn4_2, fn4_3, h0, h1, h2, h3, decide_true, decide_false, Bool.toNat_true, Bool.toNat_false]
  rfl

/-- **`level_length`, pattern A** -/
theorem level_length_A (v0 v1 v2 v3 : V3 ℝ) (f0 f1 f2 f3 lev : ℝ) (h : Gen.LevelLength.pcA v0 v1 v2 v3 f0 f1 f2 f3 lev) :
    Level.levelLength (vtx4 v0 v1 v2 v3) T4 (fn4 f0 f1 f2 f3) lev = Gen.LevelLength.lenA v0 v1 v2 v3 f0 f1 f2 f3 lev := by
  obtain ⟨h0, h1, h2, h3⟩ := h
  rw [Level.levelLength, crossed_A h0 h1 h2 h3]
  v3_flat [List.map_cons, List.map_nil, List.sum_cons, List.sum_nil, Level.crossPoint, Level.dist, Level.one, vtx4_0, vtx4_1,
    vtx4_2, vtx4_3, fn4_0, fn4_1, fn4_2, fn4_3, Gen.LevelLength.lenA]
  ring

/-- **`level_length`, pattern B** -/
theorem level_length_B (v0 v1 v2 v3 : V3 ℝ) (f0 f1 f2 f3 lev : ℝ) (h : Gen.LevelLength.pcB v0 v1 v2 v3 f0 f1 f2 f3 lev) :
    Level.levelLength (vtx4 v0 v1 v2 v3) T4 (fn4 f0 f1 f2 f3) lev = Gen.LevelLength.lenB v0 v1 v2 v3 f0 f1 f2 f3 lev := by
  obtain ⟨h0, h1, h2, h3⟩ := h
  rw [Level.levelLength, crossed_B h0 h1 h2 h3]
  v3_flat [List.map_cons, List.map_nil, List.sum_cons, List.sum_nil, Level.crossPoint, Level.dist, Level.one, vtx4_0, vtx4_1,
    vtx4_2, vtx4_3, fn4_0, fn4_1, fn4_2, fn4_3, Gen.LevelLength.lenB]
  ring

/-- an array of levels gives the single-level lengths one by one (the trace passes the array `[lev, lev]`, the same symbol twice: the
    statement shows one result per entry, it cannot tell entry-wise evaluation from reuse of the first level) -/
theorem level_lengths_A (v0 v1 v2 v3 : V3 ℝ) (f0 f1 f2 f3 lev : ℝ) :
    Gen.LevelLength.lensA v0 v1 v2 v3 f0 f1 f2 f3 lev
      = [Gen.LevelLength.lenA v0 v1 v2 v3 f0 f1 f2 f3 lev, Gen.LevelLength.lenA v0 v1 v2 v3 f0 f1 f2 f3 lev] :=
  rfl

theorem level_lengths_B (v0 v1 v2 v3 : V3 ℝ) (f0 f1 f2 f3 lev : ℝ) :
    Gen.LevelLength.lensB v0 v1 v2 v3 f0 f1 f2 f3 lev
      = [Gen.LevelLength.lenB v0 v1 v2 v3 f0 f1 f2 f3 lev, Gen.LevelLength.lenB v0 v1 v2 v3 f0 f1 f2 f3 lev] :=
  rfl

/-! ### census: how many data-dependent decisions the tracer recorded (a branch added to the source changes the number) -/
theorem census_LevelLength_pcACount : Gen.LevelLength.pcACount = 4 := rfl
theorem census_LevelLength_pcBCount : Gen.LevelLength.pcBCount = 4 := rfl

end LapyVerif.Bridge
