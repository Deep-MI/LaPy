import Mathlib.Data.List.Nodup
import Mathlib.Data.List.Perm.Basic
import LapyVerif.Model.Topo
/-
  The loop extraction of `boundary_loops` (`Topo.walk`, `Topo.loopsFrom`) on a half-edge list whose predecessor map
  is a permutation: termination within the fuel the model supplies, and the cycle decomposition it returns.
  Nothing here mentions triangles.
-/
namespace LapyVerif
namespace Lemmas
open Topo

/-- the predecessor the code follows: the smallest stored row index of column `c` -/
def pred (bd : List (Nat × Nat)) (c : Nat) : Nat := (firstRow bd c).getD 0

theorem firstRow_mem {bd : List (Nat × Nat)} {c a : Nat} (h : firstRow bd c = some a) : (a, c) ∈ bd := by
  obtain ⟨⟨a', c'⟩, hmem, rfl⟩ := List.mem_map.1 (List.min?_mem h)
  obtain ⟨hmem, hc⟩ := List.mem_filter.1 hmem
  rw [beq_iff_eq] at hc
  exact hc ▸ hmem

theorem firstRow_of_col {bd : List (Nat × Nat)} {a c : Nat} (h : (a, c) ∈ bd) :
    firstRow bd c = some (pred bd c) := by
  unfold pred
  cases hf : firstRow bd c with
  | none =>
    unfold firstRow at hf
    rw [List.min?_eq_none_iff, List.map_eq_nil_iff, List.filter_eq_nil_iff] at hf
    exact absurd (hf (a, c) h) (by simp)
  | some r => rfl

theorem pred_mem {bd : List (Nat × Nat)} {a c : Nat} (h : (a, c) ∈ bd) : (pred bd c, c) ∈ bd :=
  firstRow_mem (firstRow_of_col h)

theorem mem_cols {bd : List (Nat × Nat)} {c : Nat} : c ∈ bd.map (·.2) ↔ ∃ a, (a, c) ∈ bd := by
  simp

theorem firstCol_none {bd : List (Nat × Nat)} (h : firstCol bd = none) : bd = [] := by
  unfold firstCol at h
  rwa [List.min?_eq_none_iff, List.map_eq_nil_iff] at h

/-- The inner walk on a list whose predecessor map `pred bd` sends the columns of `bd` injectively to columns.
    `l = first :: t` is the path so far (the accumulator reversed) and `x` the vertex about to be visited.  Invariant:
    `l` is duplicate-free and each entry is followed by its predecessor, `x` following the last one
    (`l.drop 1 ++ [x] = l.map (pred bd)`).  By injectivity the image `l.map (pred bd)` is duplicate-free as well, so `x`
    is not among `l.drop 1`: the walk can only close at `first`, and it does so before `l` exhausts the columns. -/
theorem walk_spec {bd : List (Nat × Nat)} (hmap : ∀ x ∈ bd.map (·.2), pred bd x ∈ bd.map (·.2))
    (hinj : ∀ x ∈ bd.map (·.2), ∀ y ∈ bd.map (·.2), pred bd x = pred bd y → x = y) (first : Nat) :
    ∀ (fuel x : Nat) (t : List Nat), (first :: t).Nodup → (∀ y ∈ first :: t, y ∈ bd.map (·.2)) →
      t ++ [x] = (first :: t).map (pred bd) → bd.length < fuel + (first :: t).length →
      ∃ loop, walk bd first fuel x (first :: t).reverse = some loop ∧ loop.Nodup ∧ loop ≠ [] ∧
        (∀ y ∈ loop, y ∈ bd.map (·.2)) ∧ loop.drop 1 ++ loop.take 1 = loop.map (pred bd) := by
  intro fuel
  induction fuel with
  | zero =>
    intro x t hnd hsub _ hf
    have := hnd.length_le_of_subset hsub
    rw [List.length_map] at this
    omega
  | succ fuel ih =>
    intro x t hnd hsub hrot hf
    rw [walk]
    by_cases hx : x = first
    · rw [if_pos (beq_iff_eq.2 hx), List.reverse_reverse]
      exact ⟨first :: t, rfl, hnd, List.cons_ne_nil _ _, hsub, by rw [← hrot, hx]; rfl⟩
    · have hxS : x ∈ bd.map (·.2) := by
        obtain ⟨y, hy, rfl⟩ := List.mem_map.1 (hrot ▸ List.mem_append_right t (List.mem_singleton_self x))
        exact hmap y (hsub y hy)
      obtain ⟨a, ha⟩ := mem_cols.1 hxS
      have hnd' : (t ++ [x]).Nodup := hrot ▸ hnd.map_on fun a ha b hb => hinj a (hsub a ha) b (hsub b hb)
      have hxl : x ∉ first :: t := by
        intro hm
        rcases List.mem_cons.1 hm with h | h
        · exact hx h
        · exact (List.nodup_append.1 hnd').2.2 x h x (List.mem_singleton_self x) rfl
      rw [if_neg (mt beq_iff_eq.1 hx), firstRow_of_col ha,
        show x :: (first :: t).reverse = (first :: (t ++ [x])).reverse by simp]
      refine ih (pred bd x) (t ++ [x]) ?_ ?_ ?_ ?_
      · exact List.nodup_append.2 ⟨hnd, List.nodup_singleton x, fun a ha b hb => by
          rw [List.mem_singleton.1 hb]; exact fun e => hxl (e ▸ ha)⟩
      · intro y hy
        rcases List.mem_append.1 (show y ∈ (first :: t) ++ [x] from hy) with h | h
        · exact hsub y h
        · exact List.mem_singleton.1 h ▸ hxS
      · rw [show first :: (t ++ [x]) = (first :: t) ++ [x] from rfl, List.map_append, ← hrot]
        rfl
      · simp only [List.length_cons, List.length_append, List.length_nil] at hf ⊢
        omega

/-- `bd` has no duplicate, every vertex has at most one outgoing half-edge, and every vertex with an outgoing
    half-edge has an incoming one.  (By counting, every vertex then has exactly one incoming and one outgoing
    half-edge: the predecessor map is a permutation of the vertices that occur.) -/
structure PermLike (bd : List (Nat × Nat)) : Prop where
  nodup : bd.Nodup
  out_unique : ∀ a c c', (a, c) ∈ bd → (a, c') ∈ bd → c = c'
  rows_sub_cols : ∀ a c, (a, c) ∈ bd → ∃ a', (a', a) ∈ bd

/-- the half-edges `(l[k+1], l[k])` of a cyclic vertex list, including the closing one `(l[0], l[last])` -/
def cycleEdges (l : List Nat) : List (Nat × Nat) := (l.drop 1 ++ l.take 1).zip l

section round
variable {bd : List (Nat × Nat)} (hP : PermLike bd)
include hP

theorem PermLike.pred_map : ∀ x ∈ bd.map (·.2), pred bd x ∈ bd.map (·.2) := by
  intro x hx
  obtain ⟨a, hm⟩ := mem_cols.1 hx
  exact mem_cols.2 (hP.rows_sub_cols _ _ (pred_mem hm))

theorem PermLike.pred_inj : ∀ x ∈ bd.map (·.2), ∀ y ∈ bd.map (·.2), pred bd x = pred bd y → x = y := by
  intro x hx y hy hxy
  obtain ⟨a, hm⟩ := mem_cols.1 hx
  obtain ⟨a', hm'⟩ := mem_cols.1 hy
  exact hP.out_unique _ _ _ (pred_mem hm) (hxy ▸ pred_mem hm')

theorem PermLike.round (fc : Nat) (hfc : firstCol bd = some fc) :
    ∃ loop r, firstRow bd fc = some r ∧ walk bd fc (bd.length + 1) r [fc] = some loop ∧
      loop.Nodup ∧ loop ≠ [] ∧
      (loop.filterMap fun c => (firstRow bd c).map fun r => (r, c)) = cycleEdges loop ∧
      (cycleEdges loop).Nodup ∧ cycleEdges loop ≠ [] ∧ (∀ e ∈ cycleEdges loop, e ∈ bd) ∧
      PermLike (bd.filter fun k => !(cycleEdges loop).contains k) := by
  have hS : fc ∈ bd.map (·.2) := List.min?_mem hfc
  obtain ⟨a, ha⟩ := mem_cols.1 hS
  obtain ⟨loop, hw, hnd, hne, hsub, hrot⟩ := walk_spec hP.pred_map hP.pred_inj fc (bd.length + 1) (pred bd fc) []
    (List.nodup_singleton fc) (fun y hy => List.mem_singleton.1 hy ▸ hS) rfl (Nat.lt_succ_of_lt (Nat.lt_succ_self _))
  have hloopcol : ∀ c ∈ loop, ∃ a, (a, c) ∈ bd := fun c hc => mem_cols.1 (hsub c hc)
  have hV : cycleEdges loop = loop.map fun c => (pred bd c, c) := by
    unfold cycleEdges
    rw [hrot, List.zip_map_left, List.zip, List.zipWith_self, List.map_map]
    rfl
  have hVmem : ∀ e ∈ cycleEdges loop, e ∈ bd := by
    intro e he
    rw [hV, List.mem_map] at he
    obtain ⟨c, hc, rfl⟩ := he
    obtain ⟨a, ha⟩ := hloopcol c hc
    exact pred_mem ha
  have hclosed : ∀ a ∈ loop, ∃ x ∈ loop, pred bd x = a := by
    intro a ha
    refine List.mem_map.1 (hrot ▸ ?_)
    rw [List.mem_append, or_comm, ← List.mem_append, List.take_append_drop]
    exact ha
  refine ⟨loop, pred bd fc, firstRow_of_col ha, hw, hnd, hne, ?_, ?_, ?_, hVmem, ?_⟩
  · rw [hV]
    refine List.filterMap_eq_map_iff_forall_eq_some.2 fun c hc => ?_
    obtain ⟨a, ha⟩ := hloopcol c hc
    rw [firstRow_of_col ha]; rfl
  · rw [hV]
    apply hnd.map
    intro c c' h
    simp only [Prod.mk.injEq] at h
    exact h.2
  · rw [hV]
    exact fun h => hne (List.map_eq_nil_iff.1 h)
  · -- the remaining list is again permutation-like: a row index of a remaining half-edge is not on the loop,
    -- so its incoming half-edge `(pred a, a)` remains as well
    refine ⟨hP.nodup.filter _, ?_, ?_⟩
    · intro a c c' h1 h2
      exact hP.out_unique a c c' (List.mem_filter.mp h1).1 (List.mem_filter.mp h2).1
    · intro a c hac
      rw [List.mem_filter] at hac
      obtain ⟨hac, hnv⟩ := hac
      simp only [Bool.not_eq_true', ← Bool.not_eq_true, List.contains_iff_mem, hV, List.mem_map] at hnv
      have ha : a ∉ loop := by
        intro hin
        obtain ⟨x, hx, hfx⟩ := hclosed a hin
        obtain ⟨b, hb⟩ := hloopcol x hx
        have hcx : c = x := hP.out_unique a c x hac (hfx ▸ pred_mem hb)
        exact hnv ⟨x, hx, by rw [hfx, hcx]⟩
      obtain ⟨a', ha'⟩ := hP.rows_sub_cols a c hac
      refine ⟨pred bd a, List.mem_filter.2 ⟨pred_mem ha', ?_⟩⟩
      simp only [Bool.not_eq_true', ← Bool.not_eq_true, List.contains_iff_mem, hV, List.mem_map]
      rintro ⟨c', hc', he⟩
      exact ha ((Prod.mk.inj he).2 ▸ hc')

end round

/-- `loopsFrom` on a permutation-like half-edge list: it terminates within the fuel, and the loops it appends are
    duplicate-free vertex cycles whose half-edges are together exactly the half-edges of `bd`, each used once. -/
theorem loopsFrom_spec : ∀ (fuel : Nat) (bd : List (Nat × Nat)) (acc : List (List Nat)),
    PermLike bd → bd.length < fuel →
    ∃ loops, loopsFrom fuel bd acc = some (acc.reverse ++ loops) ∧
      (∀ l ∈ loops, l.Nodup ∧ l ≠ []) ∧ (loops.flatMap cycleEdges).Perm bd := by
  intro fuel
  induction fuel with
  | zero => intro bd acc _ h; omega
  | succ fuel ih =>
    intro bd acc hP hfuel
    rw [loopsFrom]
    cases hfc : firstCol bd with
    | none =>
      have := firstCol_none hfc
      subst this
      exact ⟨[], by simp, by simp, by simp⟩
    | some fc =>
      obtain ⟨loop, r, hr, hw, hnd, hne, hvis, hVnd, hVne, hVmem, hP'⟩ := hP.round fc hfc
      simp only [hr, hw, hvis]
      -- the removed half-edges and the remaining ones partition `bd`
      have hperm : (cycleEdges loop ++ bd.filter fun k => !(cycleEdges loop).contains k).Perm bd := by
        refine List.Perm.trans (List.Perm.append_right _ ?_)
          (List.filter_append_perm (fun k => (cycleEdges loop).contains k) bd)
        apply (List.perm_ext_iff_of_nodup hVnd (hP.nodup.filter _)).2
        intro e
        rw [List.mem_filter, List.contains_iff_mem]
        exact ⟨fun h => ⟨hVmem e h, h⟩, fun h => h.2⟩
      have hlen : (bd.filter fun k => !(cycleEdges loop).contains k).length < fuel := by
        have h1 := hperm.length_eq
        rw [List.length_append] at h1
        have h2 : 0 < (cycleEdges loop).length := List.length_pos_iff.mpr hVne
        omega
      obtain ⟨loops, hl, hall, hp⟩ := ih _ (loop :: acc) hP' hlen
      refine ⟨loop :: loops, ?_, ?_, ?_⟩
      · rw [hl]; simp
      · intro l hl'
        rcases List.mem_cons.mp hl' with rfl | h
        · exact ⟨hnd, hne⟩
        · exact hall l h
      · rw [List.flatMap_cons]
        exact (List.Perm.append_left _ hp).trans hperm

end Lemmas
end LapyVerif
