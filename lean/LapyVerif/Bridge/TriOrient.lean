import LapyVerif.Lemmas.BridgeTac
import LapyVerif.Model.Measures
import LapyVerif.Model.Orient
import LapyVerif.Generated.TriOrient
/-
  Bridge: `TriaMesh.orient_` (lapy/tria_mesh.py) traced on the boundary of a generic tetrahedron with symbolic vertices.  The flood is index
  arithmetic (it runs on concrete numbers while tracing); the one decision that depends on the coordinates is the sign of the enclosed volume.
  A: all triangles wound inward — the flood changes nothing, `volume() < 0` at the sample, every triangle is reversed, `T − 0` is returned.
  B: one triangle reversed — the flood repairs exactly that one, `volume() ≥ 0`, `1` is returned.
  In both cases the quantity compared with zero is the model's `Measures.volumeSum` and, under the recorded decision, the rewritten triangle
  array and the returned count are the model's `Orient.orient`.
-/
namespace LapyVerif.Bridge

theorem tri_orient_volA (v0 v1 v2 v3 : V3 ℝ) :
    Measures.volumeSum (vtx4 v0 v1 v2 v3) Gen.TriOrient.inputA = Gen.TriOrient.volA v0 v1 v2 v3 := by
  v3_flat [Measures.volumeSum, Gen.TriOrient.inputA, List.map_cons, List.map_nil, vtx4_0, vtx4_1, vtx4_2, vtx4_3,
    Measures.c, Gen.TriOrient.volA, List.sum_cons, List.sum_nil]
  ring

theorem tri_orient_consistentA : Orient.consistent Gen.TriOrient.inputA = some (some (Gen.TriOrient.inputA, 0)) := by decide

theorem tri_orient_A (v0 v1 v2 v3 : V3 ℝ) (h : Gen.TriOrient.pcA v0 v1 v2 v3) :
    Orient.orient (vtx4 v0 v1 v2 v3) Gen.TriOrient.inputA = .ok Gen.TriOrient.resultA Gen.TriOrient.countA := by
  have hv : Gen.TriOrient.volA v0 v1 v2 v3 < 0 := by
    simpa [Gen.TriOrient.pcA, Gen.TriOrient.volA] using h
  have hc : Topo.isClosed Gen.TriOrient.inputA = true := by decide
  have ho : Topo.isOriented Gen.TriOrient.inputA = true := by decide
  simp only [Orient.orient, tri_orient_consistentA, Measures.volume, hc, ho, Bool.not_true, Bool.false_eq_true, if_false,
    tri_orient_volA, hv, if_true]
  have e1 : List.map Orient.swap12 Gen.TriOrient.inputA = Gen.TriOrient.resultA := by decide
  have e2 : Gen.TriOrient.inputA.length - 0 = Gen.TriOrient.countA := by decide
  rw [e1, e2]

theorem tri_orient_volB (v0 v1 v2 v3 : V3 ℝ) :
    Measures.volumeSum (vtx4 v0 v1 v2 v3) Gen.TriOrient.resultB = Gen.TriOrient.volB v0 v1 v2 v3 := by
  v3_flat [Measures.volumeSum, Gen.TriOrient.resultB, List.map_cons, List.map_nil, vtx4_0, vtx4_1, vtx4_2, vtx4_3,
    Measures.c, Gen.TriOrient.volB, List.sum_cons, List.sum_nil]
  ring

/-- the flood (index arithmetic only) repairs exactly the reversed triangle -/
theorem tri_orient_consistentB : Orient.consistent Gen.TriOrient.inputB = some (some (Gen.TriOrient.resultB, 1)) := by decide

theorem tri_orient_B (v0 v1 v2 v3 : V3 ℝ) (h : Gen.TriOrient.pcB v0 v1 v2 v3) :
    Orient.orient (vtx4 v0 v1 v2 v3) Gen.TriOrient.inputB = .ok Gen.TriOrient.resultB Gen.TriOrient.countB := by
  have hv : ¬ Gen.TriOrient.volB v0 v1 v2 v3 < 0 := by
    simpa [Gen.TriOrient.pcB, Gen.TriOrient.volB] using h
  have hc : Topo.isClosed Gen.TriOrient.resultB = true := by decide
  have ho : Topo.isOriented Gen.TriOrient.resultB = true := by decide
  simp only [Orient.orient, tri_orient_consistentB, Measures.volume, hc, ho, Bool.not_true, Bool.false_eq_true, if_false,
    tri_orient_volB, hv, Gen.TriOrient.countB]

/-! ### census: how many data-dependent decisions the tracer recorded (a branch added to the source changes the number) -/
theorem census_TriOrient_pcACount : Gen.TriOrient.pcACount = 1 := rfl
theorem census_TriOrient_pcBCount : Gen.TriOrient.pcBCount = 1 := rfl

end LapyVerif.Bridge
