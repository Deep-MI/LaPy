import LapyVerif.Model.Topo
/-
  Model of `TriaMesh.refine_` (one step `refine1` and the iteration `refine`) and `rm_free_vertices_` (triangle and tetra
  meshes).
-/
namespace LapyVerif
namespace Refine
open V3

/-- the stored entries of `triu(adj_sym, 0, format="csr")` in CSR (row-major) order: the numbering of the new vertices -/
def edgeList (ts : List Tri) : List (Nat × Nat) :=
  (((Topo.symKeys ts).filter fun k => k.1 ≤ k.2).eraseDups).mergeSort (fun a b => Topo.lexLe a b)

/-- `adjtriu[a, b]` after `adjtriu + adjtriu.T` for `a ≠ b`: index of the new vertex on edge `{a,b}` (0 if there is no such
    edge).  For `a = b` the code's sum doubles a stored diagonal index, the model does not: the model mirrors `refine_`
    on triangles with three different vertices. -/
def edgeVertex (edges : List (Nat × Nat)) (vno a b : Nat) : Nat :=
  let k := (min a b, max a b)
  match edges.idxOf? k with
  | some i => vno + i
  | none => 0

variable {K : Type} [Zero K] [Add K] [Sub K] [Mul K] [Div K] [Neg K] [NatCast K]

def midpoint (a b : V3 K) : V3 K := smul (((1 : Nat) : K) / ((2 : Nat) : K)) (a + b)

/-- one pass of the `for` loop of `refine_` -/
def refine1 (verts : List (V3 K)) (ts : List Tri) : List (V3 K) × List Tri :=
  let vno := verts.length
  let vtx := fun i => verts.getD i ⟨0, 0, 0⟩
  let edges := edgeList ts
  let vnew := verts ++ edges.map fun k => midpoint (vtx k.1) (vtx k.2)
  let tnew := ts.flatMap fun (t0, t1, t2) =>
    let e1 := edgeVertex edges vno t0 t1
    let e2 := edgeVertex edges vno t1 t2
    let e3 := edgeVertex edges vno t2 t0
    [(t0, e1, e3), (t1, e2, e1), (t2, e3, e2), (e1, e2, e3)]
  (vnew, tnew)

def refine (it : Nat) (verts : List (V3 K)) (ts : List Tri) : List (V3 K) × List Tri :=
  match it with
  | 0 => (verts, ts)
  | n + 1 => let (v, t) := refine1 verts ts; refine n v t

end Refine

namespace RmFree

structure Result where
  keep : List Nat         -- kept original indices (ascending)
  del : List Nat          -- deleted original indices (ascending)
  lookup : Nat → Nat      -- `tlookup = cumsum(vkeep) - 1`
  changed : Bool          -- false = early return (nothing to delete)

/-- `used` = flattened element indices -/
def run (nv : Nat) (used : List Nat) : Result :=
  let keepMask := fun i => used.contains i
  let del := (List.range nv).filter fun i => !keepMask i
  let keep := (List.range nv).filter keepMask
  { keep := if del.isEmpty then List.range nv else keep
    del := del
    lookup := fun i => ((List.range (i + 1)).filter keepMask).length - 1
    changed := !del.isEmpty }

def tri (nv : Nat) (ts : List Tri) : Result × List Tri :=
  let r := run nv (ts.flatMap fun (a, b, c) => [a, b, c])
  (r, if r.changed then ts.map fun (a, b, c) => (r.lookup a, r.lookup b, r.lookup c) else ts)

def tet (nv : Nat) (ts : List Tet) : Result × List Tet :=
  let r := run nv (ts.flatMap fun (a, b, c, d) => [a, b, c, d])
  (r, if r.changed then ts.map fun (a, b, c, d) => (r.lookup a, r.lookup b, r.lookup c, r.lookup d) else ts)

end RmFree
end LapyVerif
