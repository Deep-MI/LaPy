import LapyVerif.Lemmas.Assembly
import LapyVerif.Model.DiffGeo
import LapyVerif.Generated.DiffTri
import LapyVerif.Generated.DiffTetPos
import LapyVerif.Generated.DiffTetNeg
/-
  Bridge: the gradient / divergence kernels of `lapy/diffgeo.py`, traced on one generic element, are the model's.
  The tetrahedral kernels are traced once on a positively and once on a negatively oriented sample element
  (the code branches on the orientation sign).
-/
set_option linter.unusedTactic false
-- the closing `ring` runs only on entries that the traced kernel computes in another, algebraically equal form
set_option linter.unreachableTactic false
namespace LapyVerif.Bridge

/-- on the recorded branch the normal is not degenerate: its length is not replaced by 1 -/
theorem triNormalLen_eq (v0 v1 v2 : V3 ℝ) (f0 f1 f2 : ℝ) (X : V3 ℝ) (h : Gen.DiffTri.pc v0 v1 v2 f0 f1 f2 X) :
    DiffGeo.triNormalLen v0 v1 v2 =
      (V3.cross (v1 - v0) (-(v0 - v2)), Real.sqrt (V3.normSq (V3.cross (v1 - v0) (-(v0 - v2))))) := by
  have h' : ¬ (Real.sqrt (V3.normSq (V3.cross (v1 - v0) (-(v0 - v2)))) < epsK) := by
    rw [epsK_real]
    simpa [Gen.DiffTri.pc, V3.normSq, V3.dot] using h
  simp only [DiffGeo.triNormalLen, DiffGeo.guard1, sqrt_real, if_neg h']

theorem diff_tri_nd (v0 v1 v2 : V3 ℝ) (f0 f1 f2 : ℝ) (X : V3 ℝ) (h : Gen.DiffTri.pc v0 v1 v2 f0 f1 f2 X) :
    (DiffGeo.triNormalLen v0 v1 v2).2 = Real.sqrt (V3.normSq (V3.cross (v1 - v0) (-(v0 - v2)))) :=
  congrArg Prod.snd (triNormalLen_eq v0 v1 v2 f0 f1 f2 X h)

theorem diff_tri_grad (v0 v1 v2 : V3 ℝ) (f0 f1 f2 : ℝ) (X : V3 ℝ) (h : Gen.DiffTri.pc v0 v1 v2 f0 f1 f2 X) :
    (let g := DiffGeo.triGrad1 v0 v1 v2 f0 f1 f2; [g.x, g.y, g.z]) = Gen.DiffTri.grad v0 v1 v2 f0 f1 f2 X := by
  simp only [DiffGeo.triGrad1, triNormalLen_eq v0 v1 v2 f0 f1 f2 X h, Gen.DiffTri.grad]
  v3_flat [Gen.DiffTri.grad_0, Gen.DiffTri.grad_1, Gen.DiffTri.grad_2]
  coo_entries <;> ring

theorem diff_tri_div (v0 v1 v2 : V3 ℝ) (f0 f1 f2 : ℝ) (X : V3 ℝ) (h : Gen.DiffTri.pc v0 v1 v2 f0 f1 f2 X) :
    (let m := DiffGeo.triDiv (vtx3 v0 v1 v2) [(0, 1, 2)] [X]; [Coo.entry m 0 0, Coo.entry m 1 0, Coo.entry m 2 0])
      = Gen.DiffTri.div v0 v1 v2 f0 f1 f2 X := by
  simp only [DiffGeo.triDiv, DiffGeo.triDiv1, flatten_map_zip_one, vtx3_0, vtx3_1, vtx3_2, triNormalLen_eq v0 v1 v2 f0 f1
    f2 X h, Gen.DiffTri.div, Coo.entry_cons, Coo.entry_nil, Nat.reduceEqDiff, and_self, and_true, ↓reduceIte, add_zero,
    zero_add]
  v3_flat [Gen.DiffTri.div_0, Gen.DiffTri.div_1, Gen.DiffTri.div_2, DiffGeo.half] <;>
    coo_entries <;> ring

theorem diff_tri_div2 (v0 v1 v2 : V3 ℝ) (f0 f1 f2 : ℝ) (X : V3 ℝ) (h : Gen.DiffTri.pc v0 v1 v2 f0 f1 f2 X) :
    (let m := DiffGeo.triDiv2 (vtx3 v0 v1 v2) [(0, 1, 2)] [X]; [Coo.entry m 0 0, Coo.entry m 1 0, Coo.entry m 2 0])
      = Gen.DiffTri.div2 v0 v1 v2 f0 f1 f2 X := by
  simp only [DiffGeo.triDiv2, DiffGeo.triDiv2_1, flatten_map_zip_one, vtx3_0, vtx3_1, vtx3_2, triNormalLen_eq v0 v1 v2 f0
    f1 f2 X h, Gen.DiffTri.div2, Coo.entry_cons, Coo.entry_nil, Nat.reduceEqDiff, and_self, and_true, ↓reduceIte,
    add_zero, zero_add]
  v3_flat [Gen.DiffTri.div2_0, Gen.DiffTri.div2_1, Gen.DiffTri.div2_2, DiffGeo.half]
  coo_entries <;> ring

/-- a volume that is not below the threshold is used as it is -/
theorem tetGradVol_eq {v0 v1 v2 v3 : V3 ℝ} (h : ¬ (|V3.dot (v3 - v0) (V3.cross (v1 - v0) (v0 - v2))| < epsK)) :
    DiffGeo.tetGradVol v0 v1 v2 v3 = V3.dot (v3 - v0) (V3.cross (v1 - v0) (v0 - v2)) := by
  simp only [DiffGeo.tetGradVol, abs_real, if_neg h]

theorem DiffTetPos_vol (v0 v1 v2 v3 : V3 ℝ) (f0 f1 f2 f3 : ℝ) (X : V3 ℝ) (h : Gen.DiffTetPos.pc v0 v1 v2 v3 f0 f1 f2 f3 X) :
    DiffGeo.tetGradVol v0 v1 v2 v3 = V3.dot (v3 - v0) (V3.cross (v1 - v0) (v0 - v2)) := by
  refine tetGradVol_eq ?_
  rw [epsK_real]
  simpa [Gen.DiffTetPos.pc, V3.dot] using h.1

theorem DiffTetPos_grad (v0 v1 v2 v3 : V3 ℝ) (f0 f1 f2 f3 : ℝ) (X : V3 ℝ) (h : Gen.DiffTetPos.pc v0 v1 v2 v3 f0 f1 f2 f3 X) :
    (let g := DiffGeo.tetGrad1 v0 v1 v2 v3 f0 f1 f2 f3; [g.x, g.y, g.z]) = Gen.DiffTetPos.grad v0 v1 v2 v3 f0 f1 f2 f3 X := by
  simp only [DiffGeo.tetGrad1, Gen.DiffTetPos.grad, DiffTetPos_vol v0 v1 v2 v3 f0 f1 f2 f3 X h]
  v3_flat [Gen.DiffTetPos.grad_0, Gen.DiffTetPos.grad_1, Gen.DiffTetPos.grad_2] <;>
    coo_entries <;> ring

theorem DiffTetNeg_vol (v0 v1 v2 v3 : V3 ℝ) (f0 f1 f2 f3 : ℝ) (X : V3 ℝ) (h : Gen.DiffTetNeg.pc v0 v1 v2 v3 f0 f1 f2 f3 X) :
    DiffGeo.tetGradVol v0 v1 v2 v3 = V3.dot (v3 - v0) (V3.cross (v1 - v0) (v0 - v2)) := by
  refine tetGradVol_eq ?_
  rw [epsK_real]
  simpa [Gen.DiffTetNeg.pc, V3.dot] using h.1

theorem DiffTetNeg_grad (v0 v1 v2 v3 : V3 ℝ) (f0 f1 f2 f3 : ℝ) (X : V3 ℝ) (h : Gen.DiffTetNeg.pc v0 v1 v2 v3 f0 f1 f2 f3 X) :
    (let g := DiffGeo.tetGrad1 v0 v1 v2 v3 f0 f1 f2 f3; [g.x, g.y, g.z]) = Gen.DiffTetNeg.grad v0 v1 v2 v3 f0 f1 f2 f3 X := by
  simp only [DiffGeo.tetGrad1, Gen.DiffTetNeg.grad, DiffTetNeg_vol v0 v1 v2 v3 f0 f1 f2 f3 X h]
  v3_flat [Gen.DiffTetNeg.grad_0, Gen.DiffTetNeg.grad_1, Gen.DiffTetNeg.grad_2] <;>
    coo_entries <;> ring

/-- the four entries of `tet_compute_divergence` for one tetrahedron, given the orientation sign the code found.  The code tests
    `e3 · (e2 × e0)`, the NEGATIVE of the determinant: on the positively oriented sample (`DiffTetPos`) it is `< 0` and the sign is `-1`,
    on the negatively oriented one (`DiffTetNeg`) it is `> 0` and the sign is `+1` -/
theorem tetDiv_entries (v0 v1 v2 v3 X : V3 ℝ) (s : ℝ) (hs : DiffGeo.sgn (V3.dot (v3 - v0) (V3.cross (v2 - v0) (v1 - v0))) = s) :
    (let m := DiffGeo.tetDiv (vtx4 v0 v1 v2 v3) [(0, 1, 2, 3)] [X];
      [Coo.entry m 0 0, Coo.entry m 1 0, Coo.entry m 2 0, Coo.entry m 3 0]) =
    [-(1 / 6) * V3.dot (V3.smul s (V3.cross (v2 - v1) (v3 - v1))) X, -(1 / 6) * V3.dot (V3.smul s (V3.cross (v3 - v0) (v2 - v0))) X,
     -(1 / 6) * V3.dot (V3.smul s (V3.cross (v1 - v0) (v3 - v0))) X, -(1 / 6) * V3.dot (V3.smul s (V3.cross (v2 - v0) (v1 - v0))) X] := by
  simp only [DiffGeo.tetDiv, DiffGeo.tetDiv1, hs, flatten_map_zip_one, vtx4_0, vtx4_1, vtx4_2, vtx4_3, Coo.entry_cons,
    Coo.entry_nil, Nat.reduceEqDiff, and_self, and_true, ↓reduceIte, add_zero, zero_add, Nat.cast_ofNat, Nat.cast_one]

theorem DiffTetPos_div (v0 v1 v2 v3 : V3 ℝ) (f0 f1 f2 f3 : ℝ) (X : V3 ℝ) (h : Gen.DiffTetPos.pc v0 v1 v2 v3 f0 f1 f2 f3 X) :
    (let m := DiffGeo.tetDiv (vtx4 v0 v1 v2 v3) [(0, 1, 2, 3)] [X];
      [Coo.entry m 0 0, Coo.entry m 1 0, Coo.entry m 2 0, Coo.entry m 3 0]) = Gen.DiffTetPos.div v0 v1 v2 v3 f0 f1 f2 f3 X := by
  have hs : V3.dot (v3 - v0) (V3.cross (v2 - v0) (v1 - v0)) < 0 := by
    have := h.2
    simpa [Gen.DiffTetPos.pc, V3.dot] using this
  rw [tetDiv_entries v0 v1 v2 v3 X (-1) (by simp only [DiffGeo.sgn, if_pos hs, Nat.cast_one]), Gen.DiffTetPos.div]
  v3_flat [Gen.DiffTetPos.div_0, Gen.DiffTetPos.div_1, Gen.DiffTetPos.div_2, Gen.DiffTetPos.div_3, neg_mul] <;>
    coo_entries <;> ring

theorem DiffTetNeg_div (v0 v1 v2 v3 : V3 ℝ) (f0 f1 f2 f3 : ℝ) (X : V3 ℝ) (h : Gen.DiffTetNeg.pc v0 v1 v2 v3 f0 f1 f2 f3 X) :
    (let m := DiffGeo.tetDiv (vtx4 v0 v1 v2 v3) [(0, 1, 2, 3)] [X];
      [Coo.entry m 0 0, Coo.entry m 1 0, Coo.entry m 2 0, Coo.entry m 3 0]) = Gen.DiffTetNeg.div v0 v1 v2 v3 f0 f1 f2 f3 X := by
  have hs : 0 < V3.dot (v3 - v0) (V3.cross (v2 - v0) (v1 - v0)) := by
    have := h.2.2
    simpa [Gen.DiffTetNeg.pc, V3.dot] using this
  rw [tetDiv_entries v0 v1 v2 v3 X 1 (by simp only [DiffGeo.sgn, if_neg (not_lt.mpr hs.le), if_pos hs, Nat.cast_one]),
    Gen.DiffTetNeg.div]
  v3_flat [Gen.DiffTetNeg.div_0, Gen.DiffTetNeg.div_1, Gen.DiffTetNeg.div_2, Gen.DiffTetNeg.div_3, neg_mul] <;>
    coo_entries <;> ring

/-! ### census: how many data-dependent decisions the tracer recorded (a branch added to the source changes the number) -/
theorem census_DiffTri_pcCount : Gen.DiffTri.pcCount = 1 := rfl
-- the positive sample is decided by `< 0` (2 decisions with the volume floor), the negative one also answers `> 0` (3)
theorem census_DiffTetPos_pcCount : Gen.DiffTetPos.pcCount = 2 := rfl
theorem census_DiffTetNeg_pcCount : Gen.DiffTetNeg.pcCount = 3 := rfl

end LapyVerif.Bridge
