import Mathlib.Algebra.BigOperators.Group.List.Basic
import Mathlib.Algebra.Order.BigOperators.Group.List
import LapyVerif.Lemmas.BridgeTac
import LapyVerif.Lemmas.ListAux
import LapyVerif.Lemmas.ListSum
import LapyVerif.Model.Spectral
import LapyVerif.Model.Heat
/-
  Linearity of assembly: the bilinear form / row action / total of a flattened list of element blocks is the
  sum over the elements.  No bound on the number of elements; no manifoldness, orientation or range hypothesis.
-/
namespace LapyVerif
namespace Coo

theorem form_nil (f g : Nat → ℝ) : form ([] : Coo ℝ) f g = 0 := rfl

theorem entry_nil (i j : Nat) : entry ([] : Coo ℝ) i j = 0 := rfl

theorem mulVec_nil (y : Nat → ℝ) (i : Nat) : mulVec ([] : Coo ℝ) y i = 0 := rfl

theorem form_cons (e : (Nat × Nat) × ℝ) (m : Coo ℝ) (f g : Nat → ℝ) :
    form (e :: m) f g = f e.1.1 * e.2 * g e.1.2 + form m f g := by
  simp [form]

/-! ### the three readings of a triplet list: `entry`, `mulVec` and `total` are `form` on indicator and constant
    vectors, so what follows is proved for `form` and read off for the others -/

theorem entry_eq_form (m : Coo ℝ) (i j : Nat) :
    entry m i j = form m (fun k => if k = i then 1 else 0) (fun k => if k = j then 1 else 0) := by
  rw [entry, List.sum_map_filter]
  simp only [form, Bool.and_eq_true, beq_iff_eq, ite_mul, mul_ite, one_mul, zero_mul, mul_one, mul_zero, ← ite_and, and_comm]

theorem mulVec_eq_form (m : Coo ℝ) (g : Nat → ℝ) (i : Nat) :
    mulVec m g i = form m (fun k => if k = i then 1 else 0) g := by
  rw [mulVec, List.sum_map_filter]
  simp only [form, beq_iff_eq, ite_mul, one_mul, zero_mul]

theorem mulVec_cons (e : (Nat × Nat) × ℝ) (m : Coo ℝ) (y : Nat → ℝ) (i : Nat) :
    mulVec (e :: m) y i = (if e.1.1 = i then e.2 * y e.1.2 else 0) + mulVec m y i := by
  simp only [mulVec_eq_form, form_cons, ite_mul, one_mul, zero_mul]

theorem entry_cons (e : (Nat × Nat) × ℝ) (m : Coo ℝ) (i j : Nat) :
    entry (e :: m) i j = (if e.1.1 = i ∧ e.1.2 = j then e.2 else 0) + entry m i j := by
  simp only [entry_eq_form, form_cons, ite_mul, mul_ite, one_mul, zero_mul, mul_one, mul_zero, ← ite_and, and_comm]

theorem total_eq_form (m : Coo ℝ) : total m = form m (fun _ => 1) (fun _ => 1) := by
  simp [form, total]

theorem entry_eq_mulVec (m : Coo ℝ) (i j : Nat) : entry m i j = mulVec m (fun k => if k = j then 1 else 0) i := by
  rw [entry_eq_form, mulVec_eq_form]

theorem form_append (a b : Coo ℝ) (f g : Nat → ℝ) : form (a ++ b) f g = form a f g + form b f g := by
  simp [form]

theorem form_flatten (l : List (Coo ℝ)) (f g : Nat → ℝ) :
    form l.flatten f g = (l.map fun b => form b f g).sum := by
  induction l with
  | nil => rfl
  | cons b l ih => simp [List.flatten_cons, form_append, ih]

theorem form_flatten_map {α : Type} (l : List α) (blk : α → Coo ℝ) (q : α → ℝ) (f g : Nat → ℝ)
    (h : ∀ a ∈ l, form (blk a) f g = q a) : form (l.map blk).flatten f g = (l.map q).sum := by
  rw [form_flatten, List.map_map]
  exact congrArg List.sum (List.map_congr_left h)

theorem total_append (a b : Coo ℝ) : total (a ++ b) = total a + total b := by
  simp only [total_eq_form, form_append]

theorem total_flatten (l : List (Coo ℝ)) : total l.flatten = (l.map total).sum := by
  rw [total_eq_form, form_flatten]
  exact congrArg List.sum (List.map_congr_left fun b _ => (total_eq_form b).symm)

theorem mulVec_append (a b : Coo ℝ) (g : Nat → ℝ) (i : Nat) : mulVec (a ++ b) g i = mulVec a g i + mulVec b g i := by
  simp only [mulVec_eq_form, form_append]

theorem mulVec_flatten (l : List (Coo ℝ)) (g : Nat → ℝ) (i : Nat) :
    mulVec l.flatten g i = (l.map fun b => mulVec b g i).sum := by
  simp only [mulVec_eq_form, form_flatten]

theorem mulVec_flatten_map {α : Type} (l : List α) (blk : α → Coo ℝ) (q : α → ℝ) (g : Nat → ℝ) (i : Nat)
    (h : ∀ a ∈ l, mulVec (blk a) g i = q a) : mulVec (l.map blk).flatten g i = (l.map q).sum := by
  simp only [mulVec_eq_form] at h ⊢
  exact form_flatten_map l blk q _ g h

theorem entry_append (a b : Coo ℝ) (i j : Nat) : entry (a ++ b) i j = entry a i j + entry b i j := by
  simp only [entry_eq_form, form_append]

theorem entry_flatten (l : List (Coo ℝ)) (i j : Nat) :
    entry l.flatten i j = (l.map fun b => entry b i j).sum := by
  simp only [entry_eq_form, form_flatten]


theorem form_add_right (m : Coo ℝ) (f y z : Nat → ℝ) :
    form m f (fun k => y k + z k) = form m f y + form m f z := by
  simp only [form, mul_add, List.sum_map_add]

theorem form_smul_right (m : Coo ℝ) (c : ℝ) (f y : Nat → ℝ) :
    form m f (fun k => c * y k) = c * form m f y := by
  simp only [form, mul_left_comm _ c, List.sum_map_mul_left]

theorem form_sub_right (m : Coo ℝ) (f y z : Nat → ℝ) :
    form m f (fun k => y k - z k) = form m f y - form m f z := by
  simp only [form, mul_sub, List.sum_map_sub]

theorem form_scale (c : ℝ) (m : Coo ℝ) (f g : Nat → ℝ) :
    form (m.map fun e => (e.1, c * e.2)) f g = c * form m f g := by
  simp only [form, List.map_map, Function.comp_def, mul_left_comm _ c, mul_assoc, List.sum_map_mul_left]

theorem mulVec_add (m : Coo ℝ) (y z : Nat → ℝ) (i : Nat) :
    mulVec m (fun k => y k + z k) i = mulVec m y i + mulVec m z i := by
  simp only [mulVec_eq_form, form_add_right]

theorem mulVec_smul (m : Coo ℝ) (c : ℝ) (y : Nat → ℝ) (i : Nat) :
    mulVec m (fun k => c * y k) i = c * mulVec m y i := by
  simp only [mulVec_eq_form, form_smul_right]

theorem mulVec_sub (m : Coo ℝ) (y z : Nat → ℝ) (i : Nat) :
    mulVec m (fun k => y k - z k) i = mulVec m y i - mulVec m z i := by
  simp only [mulVec_eq_form, form_sub_right]

theorem mulVec_scale (c : ℝ) (m : Coo ℝ) (y : Nat → ℝ) (i : Nat) :
    mulVec (m.map fun e => (e.1, c * e.2)) y i = c * mulVec m y i := by
  simp only [mulVec_eq_form, form_scale]

/-! ### the two sparse sums of the model: `A − σB` (`eigs`) and `B + tA` (`diffusion`, curvature flow) -/

theorem form_shiftMat (σ : ℝ) (A B : Coo ℝ) (f g : Nat → ℝ) :
    form (Spectral.shiftMat σ A B) f g = form A f g - σ * form B f g := by
  rw [Spectral.shiftMat, form_append, form_scale]; ring

theorem mulVec_shiftMat (σ : ℝ) (A B : Coo ℝ) (y : Nat → ℝ) (i : Nat) :
    mulVec (Spectral.shiftMat σ A B) y i = mulVec A y i - σ * mulVec B y i := by
  simp only [mulVec_eq_form, form_shiftMat]

theorem entry_shiftMat (σ : ℝ) (A B : Coo ℝ) (i j : Nat) :
    entry (Spectral.shiftMat σ A B) i j = entry A i j - σ * entry B i j := by
  simp only [entry_eq_form, form_shiftMat]

theorem form_heatMat (t : ℝ) (A B : Coo ℝ) (f g : Nat → ℝ) :
    form (Heat.heatMat t A B) f g = form B f g + t * form A f g := by
  rw [Heat.heatMat, form_append, form_scale]

theorem mulVec_heatMat (t : ℝ) (A B : Coo ℝ) (y : Nat → ℝ) (i : Nat) :
    mulVec (Heat.heatMat t A B) y i = mulVec B y i + t * mulVec A y i := by
  simp only [mulVec_eq_form, form_heatMat]

theorem entry_heatMat (t : ℝ) (A B : Coo ℝ) (i j : Nat) :
    entry (Heat.heatMat t A B) i j = entry B i j + t * entry A i j := by
  simp only [entry_eq_form, form_heatMat]

theorem mulVec_congr (m : Coo ℝ) (f g : Nat → ℝ) (i : Nat) (h : ∀ e ∈ m, f e.1.2 = g e.1.2) :
    mulVec m f i = mulVec m g i := by
  rw [mulVec_eq_form, mulVec_eq_form]
  exact congrArg List.sum (List.map_congr_left fun e he => by rw [h e he])

theorem entry_pos_of_mem (m : Coo ℝ) (hpos : ∀ e ∈ m, 0 < e.2) (i j : Nat) (hk : (i, j) ∈ keys m) :
    0 < entry m i j := by
  obtain ⟨e, he, hke⟩ : ∃ e ∈ m, e.1 = (i, j) := by simpa [keys] using hk
  have hfe : e ∈ List.filter (fun e : (Nat × Nat) × ℝ => e.1.1 == i && e.1.2 == j) m :=
    List.mem_filter.mpr ⟨he, by simp [hke]⟩
  refine List.sum_pos _ (fun x hx => ?_) (List.ne_nil_of_mem (List.mem_map_of_mem hfe))
  obtain ⟨e', he', rfl⟩ := List.mem_map.mp hx
  exact hpos e' (List.mem_of_mem_filter he')

theorem entry_symm_of_form_symm (m : Coo ℝ) (h : ∀ f g, form m f g = form m g f) (i j : Nat) :
    entry m i j = entry m j i := by
  rw [entry_eq_form, entry_eq_form, h]

theorem entry_congr {m m' : Coo ℝ} (h : ∀ f g, form m f g = form m' f g) (i j : Nat) : entry m i j = entry m' i j := by
  rw [entry_eq_form, entry_eq_form, h]

theorem entry_perm {m m' : Coo ℝ} (h : m.Perm m') (i j : Nat) : entry m i j = entry m' i j :=
  ((h.filter _).map _).sum_eq

theorem form_assembled_congr {α : Type} (l : List α) (blk blk' : α → Coo ℝ) (f g : Nat → ℝ)
    (h : ∀ a ∈ l, form (blk' a) f g = form (blk a) f g) :
    form (l.map blk').flatten f g = form (l.map blk).flatten f g :=
  (form_flatten_map l blk' _ f g h).trans (form_flatten_map l blk _ f g fun _ _ => rfl).symm

theorem forall_mem_assembled {α : Type} {l : List α} {blk : α → Coo ℝ} {P : (Nat × Nat) × ℝ → Prop}
    (H : ∀ a ∈ l, ∀ e ∈ blk a, P e) : ∀ e ∈ (l.map blk).flatten, P e := by
  intro e he
  obtain ⟨b, hb, heb⟩ := List.mem_flatten.mp he
  obtain ⟨a, ha, rfl⟩ := List.mem_map.mp hb
  exact H a ha e heb

theorem assembled_map {α : Type} (l : List α) (blk blk' : α → Coo ℝ) (F : (Nat × Nat) × ℝ → (Nat × Nat) × ℝ)
    (h : ∀ a ∈ l, blk' a = (blk a).map F) : (l.map blk').flatten = ((l.map blk).flatten).map F := by
  rw [List.map_flatten, List.map_map]
  exact congrArg List.flatten (List.map_congr_left h)

end Coo

/-- the shape in which the model pairs the element list with the array of its volumes before building the blocks -/
theorem zip_map_self_map {α β γ : Type} (l : List α) (f : α → β) (g : α × β → γ) :
    (l.zip (l.map f)).map g = l.map fun a => g (a, f a) := by
  rw [← List.map_prod_left_eq_zip, List.map_map]
  rfl

end LapyVerif
