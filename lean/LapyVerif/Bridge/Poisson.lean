import LapyVerif.Lemmas.Assembly
import LapyVerif.Model.Poisson
import LapyVerif.Generated.PoissonSys
/-
  Bridge: `Solver.poisson` (lapy/solver.py) traced on symbolic 4×4 matrices `A`, `B`, a symbolic right-hand side `h`, Dirichlet
  data at the (unsorted) vertices `[2, 0]`, Neumann data at `[3, 2]` (one of them a Dirichlet vertex) and a symbolic output `x`
  of the sparse solve.  What the code hands to `splu(a).solve(b)` — kept indices, reduced matrix, right-hand side
  `B(h − n) − A d` — and what it returns — `x` re-inserted, Dirichlet values in the caller's order — are the model's
  `Poisson.system` / `Poisson.fill`; without Dirichlet data the full matrix is solved and the solver output returned as is.
  The external solve itself is a parameter of the model (contract: `a · solve a b = b`, monitored on every run).
  (Every `Gen.PoissonSys.*` definition takes the full symbol list of the trace, so a statement also binds symbols it does not mention otherwise.)
-/
namespace LapyVerif.Bridge

def M4 (a00 a01 a02 a03 a10 a11 a12 a13 a20 a21 a22 a23 a30 a31 a32 a33 : ℝ) : Coo ℝ :=
  [((0, 0), a00), ((0, 1), a01), ((0, 2), a02), ((0, 3), a03), ((1, 0), a10), ((1, 1), a11), ((1, 2), a12), ((1, 3), a13),
   ((2, 0), a20), ((2, 1), a21), ((2, 2), a22), ((2, 3), a23), ((3, 0), a30), ((3, 1), a31), ((3, 2), a32), ((3, 3), a33)]

def f4 (f0 f1 f2 f3 : ℝ) : Nat → ℝ := fun i => match i with
  | 0 => f0 | 1 => f1 | 2 => f2 | _ => f3

theorem free_idx : Poisson.freeIdx 4 [2, 0] = [1, 3] := by decide

theorem poisson_system
    (a00 a01 a02 a03 a10 a11 a12 a13 a20 a21 a22 a23 a30 a31 a32 a33 b00 b01 b02 b03 b10 b11 b12 b13 b20 b21 b22 b23 b30 b31 b32 b33 h0 h1 h2 h3 d0 d1 n0 n1 x0 x1 x2 x3 : ℝ) :
    Poisson.system (M4 a00 a01 a02 a03 a10 a11 a12 a13 a20 a21 a22 a23 a30 a31 a32 a33)
        (M4 b00 b01 b02 b03 b10 b11 b12 b13 b20 b21 b22 b23 b30 b31 b32 b33) 4 (f4 h0 h1 h2 h3) 2 [2, 0] [d0, d1] 2 [3, 2] [n0, n1]
      = some ([1, 3],
          Gen.PoissonSys.sysA a00 a01 a02 a03 a10 a11 a12 a13 a20 a21 a22 a23 a30 a31 a32 a33 b00 b01 b02 b03 b10 b11 b12 b13 b20 b21 b22 b23 b30 b31 b32 b33 h0 h1 h2 h3 d0 d1 n0 n1 x0 x1 x2 x3,
          Gen.PoissonSys.sysB a00 a01 a02 a03 a10 a11 a12 a13 a20 a21 a22 a23 a30 a31 a32 a33 b00 b01 b02 b03 b10 b11 b12 b13 b20 b21 b22 b23 b30 b31 b32 b33 h0 h1 h2 h3 d0 d1 n0 n1 x0 x1 x2 x3) := by
  have hc : (Poisson.checkD 2 [2, 0] 2 != .ok || Poisson.checkN 2 2 2 != .ok) = false := by decide
  simp only [Poisson.system, List.length_cons, List.length_nil, hc, Bool.false_eq_true, if_false, free_idx]
  -- Dirichlet data are present, so the system is reduced to the free vertices `[1, 3]`; Neumann data too, so they enter `b`
  have hD : (0 + 1 + 1 > 0) = True := eq_true (by decide)
  have hN : ((2 : Nat) == 0) = false := rfl
  simp only [hD, hN, if_true, decide_true, Bool.false_eq_true, if_false, Option.some.injEq, Prod.mk.injEq, true_and,
    List.map_cons, List.map_nil]
  refine ⟨?_, ?_⟩
  · rfl
  · simp only [Poisson.rhs, M4, Coo.mulVec_cons, Coo.mulVec_nil, Poisson.scatter, List.zip_cons_cons, List.zip_nil_right,
      List.filter_cons, List.filter_nil, List.map_cons, List.map_nil, List.sum_cons, List.sum_nil, Nat.reduceEqDiff,
      Nat.reduceBEq, Bool.false_eq_true, ↓reduceIte, f4, Gen.PoissonSys.sysB, Gen.PoissonSys.sysB_0,
      Gen.PoissonSys.sysB_1]
    coo_entries <;> ring

/-- **re-insertion**: `xfull[mask] = x; xfull[didx] = ddat` with the Dirichlet values in the caller's order -/
theorem poisson_result
    (a00 a01 a02 a03 a10 a11 a12 a13 a20 a21 a22 a23 a30 a31 a32 a33 b00 b01 b02 b03 b10 b11 b12 b13 b20 b21 b22 b23 b30 b31 b32 b33 h0 h1 h2 h3 d0 d1 n0 n1 x0 x1 x2 x3 : ℝ) :
    Poisson.fill 4 [2, 0] [d0, d1] [1, 3] [x0, x1] = Gen.PoissonSys.result a00 a01 a02 a03 a10 a11 a12 a13 a20 a21 a22 a23 a30 a31 a32 a33 b00 b01 b02 b03 b10 b11 b12 b13 b20 b21 b22 b23 b30 b31 b32 b33 h0 h1 h2 h3 d0 d1 n0 n1 x0 x1 x2 x3 := by
  rfl

/-- the whole routine for any external solver -/
theorem poisson_run (solve : Coo ℝ → List ℝ → List ℝ)
    (a00 a01 a02 a03 a10 a11 a12 a13 a20 a21 a22 a23 a30 a31 a32 a33 b00 b01 b02 b03 b10 b11 b12 b13 b20 b21 b22 b23 b30 b31 b32 b33 h0 h1 h2 h3 d0 d1 n0 n1 x0 x1 x2 x3 : ℝ)
    (hs : solve (Gen.PoissonSys.sysA a00 a01 a02 a03 a10 a11 a12 a13 a20 a21 a22 a23 a30 a31 a32 a33 b00 b01 b02 b03 b10 b11 b12 b13 b20 b21 b22 b23 b30 b31 b32 b33 h0 h1 h2 h3 d0 d1 n0 n1 x0 x1 x2 x3) (Gen.PoissonSys.sysB a00 a01 a02 a03 a10 a11 a12 a13 a20 a21 a22 a23 a30 a31 a32 a33 b00 b01 b02 b03 b10 b11 b12 b13 b20 b21 b22 b23 b30 b31 b32 b33 h0 h1 h2 h3 d0 d1 n0 n1 x0 x1 x2 x3) = [x0, x1]) :
    Poisson.run solve (M4 a00 a01 a02 a03 a10 a11 a12 a13 a20 a21 a22 a23 a30 a31 a32 a33) (M4 b00 b01 b02 b03 b10 b11 b12 b13 b20 b21 b22 b23 b30 b31 b32 b33) 4 (f4 h0 h1 h2 h3) 2 [2, 0] [d0, d1] 2 [3, 2] [n0, n1]
      = some (Gen.PoissonSys.result a00 a01 a02 a03 a10 a11 a12 a13 a20 a21 a22 a23 a30 a31 a32 a33 b00 b01 b02 b03 b10 b11 b12 b13 b20 b21 b22 b23 b30 b31 b32 b33 h0 h1 h2 h3 d0 d1 n0 n1 x0 x1 x2 x3) := by
  simp only [Poisson.run, poisson_system a00 a01 a02 a03 a10 a11 a12 a13 a20 a21 a22 a23 a30 a31 a32 a33 b00 b01 b02 b03
    b10 b11 b12 b13 b20 b21 b22 b23 b30 b31 b32 b33 h0 h1 h2 h3 d0 d1 n0 n1 x0 x1 x2 x3, Option.map_some,
    List.length_cons, List.length_nil, hs, ← poisson_result a00 a01 a02 a03 a10 a11 a12 a13 a20 a21 a22 a23 a30 a31 a32
    a33 b00 b01 b02 b03 b10 b11 b12 b13 b20 b21 b22 b23 b30 b31 b32 b33 h0 h1 h2 h3 d0 d1 n0 n1 x0 x1 x2 x3]
  rw [if_pos (by decide)]

/-- **without Dirichlet data** nothing is eliminated: the stiffness matrix itself is factorised, `b = B(h − n)` -/
theorem poisson_system_neumann
    (a00 a01 a02 a03 a10 a11 a12 a13 a20 a21 a22 a23 a30 a31 a32 a33 b00 b01 b02 b03 b10 b11 b12 b13 b20 b21 b22 b23 b30 b31 b32 b33 h0 h1 h2 h3 d0 d1 n0 n1 x0 x1 x2 x3 : ℝ) :
    Poisson.system (M4 a00 a01 a02 a03 a10 a11 a12 a13 a20 a21 a22 a23 a30 a31 a32 a33) (M4 b00 b01 b02 b03 b10 b11 b12 b13 b20 b21 b22 b23 b30 b31 b32 b33) 4 (f4 h0 h1 h2 h3) 0 [] [] 2 [3, 2] [n0, n1]
      = some ([0, 1, 2, 3], Gen.PoissonSys.sysA2 a00 a01 a02 a03 a10 a11 a12 a13 a20 a21 a22 a23 a30 a31 a32 a33 b00 b01 b02 b03 b10 b11 b12 b13 b20 b21 b22 b23 b30 b31 b32 b33 h0 h1 h2 h3 d0 d1 n0 n1 x0 x1 x2 x3, Gen.PoissonSys.sysB2 a00 a01 a02 a03 a10 a11 a12 a13 a20 a21 a22 a23 a30 a31 a32 a33 b00 b01 b02 b03 b10 b11 b12 b13 b20 b21 b22 b23 b30 b31 b32 b33 h0 h1 h2 h3 d0 d1 n0 n1 x0 x1 x2 x3) := by
  have hc : (Poisson.checkD 0 [] 0 != .ok || Poisson.checkN 2 2 2 != .ok) = false := by decide
  simp only [Poisson.system, List.length_cons, List.length_nil, hc, Bool.false_eq_true, if_false]
  -- no Dirichlet data: nothing is eliminated, all four vertices are kept; the Neumann data enter `b`
  have hD : (0 > 0) = False := eq_false (by decide)
  have hN : ((2 : Nat) == 0) = false := rfl
  simp only [hD, hN, if_false, decide_false, Bool.false_eq_true, Option.some.injEq, Prod.mk.injEq]
  refine ⟨by decide, ?_, ?_⟩
  · rfl
  · simp only [List.range, List.range.loop, Poisson.rhs, M4, Coo.mulVec_cons, Coo.mulVec_nil, Poisson.scatter,
      List.zip_cons_cons, List.zip_nil_right, List.filter_cons, List.filter_nil, List.map_cons, List.map_nil, List.sum_cons,
      List.sum_nil, Nat.reduceEqDiff, Nat.reduceBEq, Bool.false_eq_true, ↓reduceIte, f4, Gen.PoissonSys.sysB2,
      Gen.PoissonSys.sysB2_0, Gen.PoissonSys.sysB2_1, Gen.PoissonSys.sysB2_2, Gen.PoissonSys.sysB2_3]
    coo_entries <;> ring

/-- and the solver output is returned unchanged -/
theorem poisson_result_neumann
    (a00 a01 a02 a03 a10 a11 a12 a13 a20 a21 a22 a23 a30 a31 a32 a33 b00 b01 b02 b03 b10 b11 b12 b13 b20 b21 b22 b23 b30 b31 b32 b33 h0 h1 h2 h3 d0 d1 n0 n1 x0 x1 x2 x3 : ℝ) :
    Gen.PoissonSys.result2 a00 a01 a02 a03 a10 a11 a12 a13 a20 a21 a22 a23 a30 a31 a32 a33 b00 b01 b02 b03 b10 b11 b12 b13 b20 b21 b22 b23 b30 b31 b32 b33 h0 h1 h2 h3 d0 d1 n0 n1 x0 x1 x2 x3 = [x0, x1, x2, x3] :=
  rfl

/-- the reduced matrix is handed over in CSC format (what SuperLU expects) -/
theorem poisson_format : Gen.PoissonSys.fmtA = "csc" := by decide

/-- **End-to-end statement about the traced code** (no hand-written model in between): if the vector `(x0, x1)` handed back by the
    sparse solver solves the system the code handed to it, then the vector the code returns takes the prescribed values at the
    Dirichlet vertices `2, 0` (in the caller's order) and satisfies `(A x)_i = (B (h − n))_i` at the free vertices `1, 3`, where
    `n` has the Neumann values `n1` at vertex 2 and `n0` at vertex 3. -/
theorem poisson_traced_spec
    (a00 a01 a02 a03 a10 a11 a12 a13 a20 a21 a22 a23 a30 a31 a32 a33 b00 b01 b02 b03 b10 b11 b12 b13 b20 b21 b22 b23 b30 b31 b32 b33 h0 h1 h2 h3 d0 d1 n0 n1 x0 x1 x2 x3 : ℝ)
    (hs0 : a11 * x0 + a13 * x1 = Gen.PoissonSys.sysB_0 a00 a01 a02 a03 a10 a11 a12 a13 a20 a21 a22 a23 a30 a31 a32 a33 b00 b01 b02 b03 b10 b11 b12 b13 b20 b21 b22 b23 b30 b31 b32 b33 h0 h1 h2 h3 d0 d1 n0 n1 x0 x1 x2 x3)
    (hs1 : a31 * x0 + a33 * x1 = Gen.PoissonSys.sysB_1 a00 a01 a02 a03 a10 a11 a12 a13 a20 a21 a22 a23 a30 a31 a32 a33 b00 b01 b02 b03 b10 b11 b12 b13 b20 b21 b22 b23 b30 b31 b32 b33 h0 h1 h2 h3 d0 d1 n0 n1 x0 x1 x2 x3) :
    ∃ r0 r1 r2 r3 : ℝ,
      Gen.PoissonSys.result a00 a01 a02 a03 a10 a11 a12 a13 a20 a21 a22 a23 a30 a31 a32 a33 b00 b01 b02 b03 b10 b11 b12 b13 b20 b21 b22 b23 b30 b31 b32 b33 h0 h1 h2 h3 d0 d1 n0 n1 x0 x1 x2 x3
        = [r0, r1, r2, r3] ∧
      r2 = d0 ∧ r0 = d1 ∧
      a10 * r0 + a11 * r1 + a12 * r2 + a13 * r3 = b10 * h0 + b11 * h1 + b12 * (h2 - n1) + b13 * (h3 - n0) ∧
      a30 * r0 + a31 * r1 + a32 * r2 + a33 * r3 = b30 * h0 + b31 * h1 + b32 * (h2 - n1) + b33 * (h3 - n0) := by
  refine ⟨d1, x0, d0, x1, ?_, rfl, rfl, ?_, ?_⟩
  · rfl
  · rw [Gen.PoissonSys.sysB_0] at hs0
    linear_combination hs0
  · rw [Gen.PoissonSys.sysB_1] at hs1
    linear_combination hs1

/-- the matrix handed to the solver is the block of `A` on the free vertices `1, 3` -/
theorem poisson_traced_matrix
    (a00 a01 a02 a03 a10 a11 a12 a13 a20 a21 a22 a23 a30 a31 a32 a33 b00 b01 b02 b03 b10 b11 b12 b13 b20 b21 b22 b23 b30 b31 b32 b33 h0 h1 h2 h3 d0 d1 n0 n1 x0 x1 x2 x3 : ℝ) :
    Gen.PoissonSys.sysA a00 a01 a02 a03 a10 a11 a12 a13 a20 a21 a22 a23 a30 a31 a32 a33 b00 b01 b02 b03 b10 b11 b12 b13 b20 b21 b22 b23 b30 b31 b32 b33 h0 h1 h2 h3 d0 d1 n0 n1 x0 x1 x2 x3
      = [((0, 0), a11), ((0, 1), a13), ((1, 0), a31), ((1, 1), a33)] :=
  rfl

/-! ### census: how many data-dependent decisions the tracer recorded (a branch added to the source changes the number) -/
theorem census_PoissonSys_pcCount : Gen.PoissonSys.pcCount = 0 := rfl

end LapyVerif.Bridge
