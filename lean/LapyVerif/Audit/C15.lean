import LapyVerif.Props.C15
import LapyVerif.Bridge.VertexMeasures
/- axiom audit of C15 (transfer between triangle and vertex functions, smoothing) -/
#print axioms LapyVerif.TransferLemmas.col_t2v
#print axioms LapyVerif.TransferLemmas.smooth1_spec
#print axioms LapyVerif.TransferLemmas.smooth_spec
#print axioms LapyVerif.TransferLemmas.RowAt.foldl
#print axioms LapyVerif.TransferLemmas.getD_zipWith
#print axioms LapyVerif.TransferLemmas.convex_sum_mem
#print axioms LapyVerif.Props.C15.t2v_const_col
#print axioms LapyVerif.Props.C15.smooth1S_eq_W
#print axioms LapyVerif.Props.C15.t2v_sum
#print axioms LapyVerif.Props.C15.t2v_weighted_sum
#print axioms LapyVerif.Measures.crossArea_eq
#print axioms LapyVerif.Props.C15.vertexAreas_eq
#print axioms LapyVerif.Props.C15.t2v_one_eq_vertex_areas
#print axioms LapyVerif.Props.C15.t2v_one_eq_vertexAreas
#print axioms LapyVerif.Props.C15.t2v_one_getD
#print axioms LapyVerif.Props.C15.t2v_const_partial
#print axioms LapyVerif.Props.C15.t2v_const_iff
#print axioms LapyVerif.Props.C15.t2v_const_counterexample
#print axioms LapyVerif.Props.C15.v2t_mean
#print axioms LapyVerif.Props.C15.v2t_const
#print axioms LapyVerif.TransferLemmas.mem_rowNbrs
#print axioms LapyVerif.Props.C15.nodup_rowNbrs
#print axioms LapyVerif.Props.C15.mem_rowNbrs_iff_neighbours
#print axioms LapyVerif.Props.C15.nbrsInRange_symKeys
#print axioms LapyVerif.Props.C15.W_nonneg
#print axioms LapyVerif.Props.C15.W_support
#print axioms LapyVerif.Props.C15.W_sum_one
#print axioms LapyVerif.Props.C15.wgt_eq
#print axioms LapyVerif.Props.C15.smooth1_weights
#print axioms LapyVerif.Props.C15.smooth1S_linear
#print axioms LapyVerif.Props.C15.smoothS_linear
#print axioms LapyVerif.Props.C15.smooth_linear
#print axioms LapyVerif.Props.C15.smooth_zero
#print axioms LapyVerif.Props.C15.smooth_one
#print axioms LapyVerif.Props.C15.smooth_iter
#print axioms LapyVerif.Props.C15.smooth1S_range
#print axioms LapyVerif.Props.C15.smooth1S_const
#print axioms LapyVerif.Props.C15.smoothS_range
#print axioms LapyVerif.Props.C15.smoothS_const
#print axioms LapyVerif.Props.C15.smooth_range
#print axioms LapyVerif.Props.C15.smooth_range_iter
#print axioms LapyVerif.Props.C15.smooth_const
#print axioms LapyVerif.Props.C15.smooth_inplace
#print axioms LapyVerif.Props.C15.smooth_inplace_err
#print axioms LapyVerif.Props.C15.smooth_inplace_x
#print axioms LapyVerif.Props.C15.sq_good
#print axioms LapyVerif.Props.C15.vertexAreas_sq
#print axioms LapyVerif.Bridge.tr_t2v
#print axioms LapyVerif.Bridge.tr_t2v1
#print axioms LapyVerif.Bridge.tr_t2vw
#print axioms LapyVerif.Bridge.tr_v2t
#print axioms LapyVerif.Bridge.census_VertexMeasures_pcCount
#print axioms LapyVerif.Bridge.census_TransferTri_pcCount
