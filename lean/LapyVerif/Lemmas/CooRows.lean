import Mathlib.Algebra.BigOperators.Group.Finset.Basic
import Mathlib.Algebra.BigOperators.Ring.Finset
import LapyVerif.Lemmas.Assembly
/-
  The bilinear form of a triplet list read row by row (`form M f g = Σ_i f i · (M g)_i`), and what follows for linear
  systems `M x = b`: rows determine the form, a positive definite system has at most one solution.
-/
namespace LapyVerif.Coo

theorem form_eq_sum_mulVec (M : Coo ℝ) (f g : Nat → ℝ) (n : Nat) (hM : ∀ e ∈ M, e.1.1 < n) :
    form M f g = ∑ i ∈ Finset.range n, f i * mulVec M g i := by
  induction M with
  | nil => simp [form, mulVec]
  | cons e M ih =>
    have ih' := ih (fun e' he' => hM e' (by simp [he']))
    have he : e.1.1 < n := hM e (by simp)
    rw [form_cons, ih']
    simp only [mulVec_cons, mul_add, Finset.sum_add_distrib, mul_ite, mul_zero]
    rw [Finset.sum_ite_eq (Finset.range n) e.1.1 (fun i => f i * (e.2 * g e.1.2))]
    simp only [Finset.mem_range, he, if_true]
    ring

theorem exists_row_bound (M : Coo ℝ) : ∃ n, ∀ e ∈ M, e.1.1 < n :=
  ⟨(M.map (·.1.1)).sum + 1, fun _ he =>
    Nat.lt_succ_of_le (List.single_le_sum (fun _ _ => Nat.zero_le _) _ (List.mem_map_of_mem he))⟩

theorem form_of_rows (A B : Coo ℝ) (x : Nat → ℝ) (lam : ℝ)
    (h : ∀ i, mulVec A x i = lam * mulVec B x i) (f : Nat → ℝ) :
    form A f x = lam * form B f x := by
  obtain ⟨n, hn⟩ := exists_row_bound (A ++ B)
  rw [form_eq_sum_mulVec A f x n fun e he => hn e (List.mem_append_left B he),
    form_eq_sum_mulVec B f x n fun e he => hn e (List.mem_append_right A he), Finset.mul_sum]
  exact Finset.sum_congr rfl fun i _ => by rw [h i, mul_left_comm]

theorem energy_zero_of_rows (A : Coo ℝ) (x : Nat → ℝ) (h : ∀ i, mulVec A x i = 0) : form A x x = 0 := by
  -- `A x = 0 · (B x)` with the empty matrix for `B`
  have := form_of_rows A [] x 0 (fun i => by rw [h i]; simp) x
  simpa using this

/-- a positive definite system has at most one solution: the difference of two solutions has zero energy -/
theorem unique_of_pd (H : Coo ℝ) (n : Nat) (hpd : ∀ f : Nat → ℝ, (∃ i < n, f i ≠ 0) → 0 < form H f f)
    (y z b : Nat → ℝ) (hy : ∀ i, mulVec H y i = b i) (hz : ∀ i, mulVec H z i = b i) : ∀ i < n, y i = z i := by
  intro i hi
  by_contra hyz
  have hpos := hpd (fun k => y k - z k) ⟨i, hi, sub_ne_zero.mpr hyz⟩
  rw [energy_zero_of_rows H _ fun i => by rw [mulVec_sub, hy, hz, sub_self]] at hpos
  exact lt_irrefl _ hpos

end LapyVerif.Coo
