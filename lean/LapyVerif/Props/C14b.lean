import LapyVerif.Lemmas.FsLemmas
/-
  C14 (last part) — the FreeSurfer binary surface format: what `write_geometry` writes is read back unchanged by
  `read_geometry(…, read_metadata=True)`; files with a wrong magic number are rejected; truncated files fail or give the
  same mesh (never a different one).
  Model: `Model/FsSurf.lean` (bytes; float32 as bit patterns; footer numbers as unparsed ASCII tokens).
-/
namespace LapyVerif.Props.C14b
open FsSurf

/-- decoding the four big-endian bytes of `n < 2^32` gives `n`; for a signed `z` in int32 range the two's complement
    reading of its four bytes gives `z` -/
theorem be32_roundtrip :
    (∀ n : Nat, n < 4294967296 → ∀ r : Bytes, items (be32 n ++ r) = n :: items r ∧ fromfile 1 (be32 n ++ r) = ([n], r)) ∧
    (∀ z : Int, -2147483648 ≤ z → z < 2147483648 → ∀ r : Bytes,
      (fromfile 1 (encI32 z ++ r)).1.map toI32 = [z] ∧ (fromfile 1 (encI32 z ++ r)).2 = r) := by
  refine ⟨fun n hn r => ⟨items_be32 n hn r, fromfile_one n hn r⟩, fun z h1 h2 r => ?_⟩
  rw [encI32, fromfile_one _ (patI32_lt z)]
  exact ⟨congrArg (fun x => [x]) (toI32_patI32 z h1 h2), rfl⟩

/-- the footer: a known extension code and admissible values (`GoodVal`: stripped, one line, no `=`, ASCII;
    `GoodTok`: non-empty, no white space, no `=`, ASCII) -/
def GoodInfo (vi : VolInfo) : Prop := (vi.head = [20] ∨ vi.head = [2, 0, 20]) ∧ GoodInfoVals vi

instance (vi : VolInfo) : Decidable (GoodInfo vi) := by unfold GoodInfo; infer_instance

/-- the mesh part: the stamp is one ASCII line; three coordinates per vertex, three indices per face, fewer than
    `2^31` numbers in each block (so that `vnum * 3` does not wrap); face indices in int32 range -/
def FsGoodMesh (s : Surf) : Prop :=
  (∀ b ∈ s.stamp, b ≠ 10 ∧ b < 128) ∧ s.coords.length % 3 = 0 ∧ s.coords.length < 2147483648 ∧
  s.faces.length % 3 = 0 ∧ s.faces.length < 2147483648 ∧ ∀ z ∈ s.faces, -2147483648 ≤ z ∧ z < 2147483648

def FsGood (s : Surf) : Prop :=
  FsGoodMesh s ∧ match s.info with | none => True | some vi => GoodInfo vi

instance (s : Surf) : Decidable (FsGoodMesh s) := by unfold FsGoodMesh; infer_instance
instance (s : Surf) : Decidable (FsGood s) := by
  unfold FsGood
  cases s.info with
  | none => infer_instance
  | some vi => infer_instance

/-- the reader after the two counts (`readBlocks`, `readCounts`, `readBody` are the code of `readFs` cut at three points;
    `readFs_magic` ties them to it by `rfl`) -/
def readBlocks (stamp : Bytes) (v f : Int) (r : Bytes) : Except FsFail Surf :=
  match readBlock v r with
  | .error e => .error e
  | .ok (cs, r) =>
    match readBlock f r with
    | .error e => .error e
    | .ok (fs, r) =>
      match readVolInfo r with
      | .error e => .error e
      | .ok info => .ok { stamp := stamp, coords := cs.map (·.toUInt32), faces := fs.map toI32, info := info }

/-- the reader after the stamp line(s) -/
def readCounts (stamp : Bytes) (r : Bytes) : Except FsFail Surf :=
  match fromfile 1 r with
  | ([v], r) =>
    match fromfile 1 r with
    | ([f], r) => readBlocks stamp (toI32 v) (toI32 f) r
    | _ => .error .indexError
  | _ => .error .indexError

/-- the reader after the magic number -/
def readBody (r : Bytes) : Except FsFail Surf :=
  let (line, r) := readline r
  let stamp := rstripNL line
  if !isAscii stamp then .error .nonAscii else
  let r := match r with
    | 10 :: r' => r'
    | _ => r
  readCounts stamp r

theorem readFs_magic (r : Bytes) : readFs (255 :: 255 :: 254 :: r) = readBody r := by
  unfold readFs readBody readCounts readBlocks
  rfl

theorem readCounts_short1 (stamp r : Bytes) (h : r.length < 4) : readCounts stamp r = .error .indexError := by
  unfold readCounts
  rw [fromfile_one_short r h]

theorem readCounts_short2 (stamp r : Bytes) (v : Nat) (hv : v < 4294967296) (h : r.length < 4) :
    readCounts stamp (be32 v ++ r) = .error .indexError := by
  unfold readCounts
  rw [fromfile_one v hv]
  dsimp only
  rw [fromfile_one_short r h]

theorem readCounts_full (stamp r : Bytes) (v f : Nat) (hv : v < 4294967296) (hf : f < 4294967296) :
    readCounts stamp (be32 v ++ (be32 f ++ r)) = readBlocks stamp (toI32 v) (toI32 f) r := by
  unfold readCounts
  rw [fromfile_one v hv]
  dsimp only
  rw [fromfile_one f hf]

theorem readBody_stamp (stamp : Bytes) (hst : ∀ b ∈ stamp, b ≠ 10 ∧ b < 128) (r : Bytes) :
    readBody (stamp ++ 10 :: 10 :: r) = readCounts stamp r := by
  have hno : ∀ b ∈ stamp, b ≠ 10 := fun b hb => (hst b hb).1
  unfold readBody
  simp only [readline_line stamp _ hno, rstripNL_line stamp hno, (isAscii_iff _).2 fun b hb => (hst b hb).2, Bool.not_true,
    Bool.false_eq_true, if_false]

/-- the 32-bit words of the coordinate block and of the face block -/
def coordWords (s : Surf) : List Nat := s.coords.map (·.toNat)
def faceWords (s : Surf) : List Nat := s.faces.map patI32

theorem coordWords_lt (s : Surf) : ∀ n ∈ coordWords s, n < 4294967296 := by
  intro n hn
  obtain ⟨w, _, rfl⟩ := List.mem_map.mp hn
  exact w.toNat_lt

theorem faceWords_lt (s : Surf) : ∀ n ∈ faceWords s, n < 4294967296 := by
  intro n hn
  obtain ⟨z, _, rfl⟩ := List.mem_map.mp hn
  exact patI32_lt z

theorem writeMesh_eq (s : Surf) :
    writeMesh s = 255 :: 255 :: 254 :: (s.stamp ++ 10 :: 10 :: (be32 (patI32 ((s.coords.length / 3 : Nat) : Int)) ++
      (be32 (patI32 ((s.faces.length / 3 : Nat) : Int)) ++ ((coordWords s).flatMap be32 ++ (faceWords s).flatMap be32)))) := by
  simp [writeMesh, encI32, coordWords, faceWords, List.flatMap_map, List.append_assoc]
  rfl

theorem length_flatMap_be32 (l : List Nat) : (l.flatMap be32).length = 4 * l.length := by
  simp only [List.length_flatMap, length_be32, List.map_const', List.sum_replicate_nat, Nat.mul_comm]

theorem length_writeMesh (s : Surf) :
    (writeMesh s).length = s.stamp.length + 13 + 4 * s.coords.length + 4 * s.faces.length := by
  rw [writeMesh_eq]
  simp only [List.length_cons, List.length_append, length_be32, length_flatMap_be32, coordWords, faceWords, List.length_map]
  omega

theorem map_toUInt32 (l : List UInt32) : (l.map (·.toNat)).map (·.toUInt32) = l := by
  simp [List.map_map, Function.comp_def]

theorem map_toI32 (l : List Int) (h : ∀ z ∈ l, -2147483648 ≤ z ∧ z < 2147483648) : (l.map patI32).map toI32 = l := by
  rw [List.map_map]
  conv => rhs; rw [← List.map_id l]
  apply List.map_congr_left
  intro z hz
  exact toI32_patI32 z (h z hz).1 (h z hz).2

/-- the block reader for a written count `k / 3` (`k` numbers, `k < 2^31`, so `vnum * 3` does not wrap): it asks for `k`
    items and accepts exactly `k` -/
theorem readBlock_count (k : Nat) (hk : k < 2147483648) (h3 : k % 3 = 0) (bs : Bytes) :
    readBlock (toI32 (patI32 ((k / 3 : Nat) : Int))) bs =
      if (takeItems k bs).1.length = k then .ok (takeItems k bs) else .error .valueError := by
  have hq : k / 3 < 2147483648 := by omega
  have hc : wrap32 (((k / 3 : Nat) : Int) * 3) = (k : Int) :=
    (toI32_patI32 _ (by omega) (by omega)).trans (by omega)
  rw [patI32_natCast _ (by omega), toI32_natCast _ hq]
  unfold readBlock fromfile
  rw [hc, if_neg (by omega), Int.toNat_natCast]
  generalize takeItems k bs = res
  obtain ⟨l, rest⟩ := res
  simp only
  rw [if_pos (by omega)]
  by_cases h : l.length = k
  · rw [if_pos h, if_pos (by omega)]
  · rw [if_neg h, if_neg (by omega)]

theorem readBlock_words (l : List Nat) (hl : ∀ n ∈ l, n < 4294967296) (h3 : l.length % 3 = 0) (hlt : l.length < 2147483648)
    (rest : Bytes) : readBlock (toI32 (patI32 ((l.length / 3 : Nat) : Int))) (l.flatMap be32 ++ rest) = .ok (l, rest) := by
  rw [readBlock_count _ hlt h3, takeItems_words l hl rest, if_pos rfl]

/-- a block that ends too early: `reshape` fails -/
theorem readBlock_short (k : Nat) (hk : k < 2147483648) (h3 : k % 3 = 0) (bs : Bytes) (h : bs.length < 4 * k) :
    readBlock (toI32 (patI32 ((k / 3 : Nat) : Int))) bs = .error .valueError := by
  rw [readBlock_count _ hk h3, if_neg (Nat.ne_of_lt (takeItems_short k bs h))]

/-- **the mesh part of a written file is read back, and the rest of the file is handed to `_read_volume_info`** —
    for every continuation `tail`, well-formed or not -/
theorem readFs_mesh (s : Surf) (h : FsGoodMesh s) (tail : Bytes) :
    readFs (writeMesh s ++ tail) =
      match readVolInfo tail with
      | .error e => .error e
      | .ok info => .ok { s with info := info } := by
  obtain ⟨hst, hc3, hclt, hf3, hflt, hfr⟩ := h
  have hcb := readBlock_words (coordWords s) (coordWords_lt s) (by simpa [coordWords] using hc3) (by simpa [coordWords] using hclt)
  have hfb := readBlock_words (faceWords s) (faceWords_lt s) (by simpa [faceWords] using hf3) (by simpa [faceWords] using hflt)
  simp only [coordWords, faceWords, List.length_map] at hcb hfb
  rw [writeMesh_eq]
  simp only [List.cons_append, List.append_assoc]
  rw [readFs_magic, readBody_stamp s.stamp hst, readCounts_full _ _ _ _ (patI32_lt _) (patI32_lt _)]
  unfold readBlocks
  simp only [coordWords, faceWords, hcb, hfb, map_toUInt32, map_toI32 s.faces hfr]

/-- **`read_geometry ∘ write_geometry = id`**: stamp, coordinate bit patterns, faces (values, order, winding) and the
    complete footer are read back unchanged -/
theorem fs_roundtrip (s : Surf) (h : FsGood s) : readFs (writeFs s) = .ok s := by
  obtain ⟨hm, hi⟩ := h
  rw [writeFs, readFs_mesh s hm]
  obtain ⟨stamp, coords, faces, info⟩ := s
  cases info with
  | none => rfl
  | some vi =>
    have hn : normHead vi.head = vi.head := by
      rcases hi.1 with h | h <;> rw [h] <;> rfl
    have := readVolInfo_writeInfo vi (hi.1.elim Or.inl fun h => Or.inr (Or.inl h)) hi.2 []
    rw [List.append_nil, hn] at this
    simp only [this]

/-- a footer with extension code `[2,1,20]` is accepted too; the reader stores `[2,0,20]` -/
theorem fs_roundtrip_head210 (s : Surf) (hm : FsGoodMesh s) (vi : VolInfo) (hs : s.info = some vi)
    (hh : vi.head = [2, 1, 20]) (hv : GoodInfoVals vi) :
    readFs (writeFs s) = .ok { s with info := some { vi with head := [2, 0, 20] } } := by
  unfold writeFs
  rw [readFs_mesh s hm, hs]
  have := readVolInfo_writeInfo vi (Or.inr (Or.inr hh)) hv []
  rw [List.append_nil] at this
  simp only [this, hh, normHead, if_true]

/-- **every byte list that does not start with 255, 255, 254 (in particular every list shorter than 3) is rejected with
    `ValueError`** -/
theorem fs_bad_magic (bs : Bytes) (h : ¬ ∃ r, bs = 255 :: 255 :: 254 :: r) : readFs bs = .error .valueError := by
  unfold readFs
  match bs with
  | [] | [_] | [_, _] => rfl
  | b1 :: b2 :: b3 :: r =>
    simp only
    by_cases hb : (b1 == 255 && b2 == 255 && b3 == 254) = true
    · exfalso
      simp only [Bool.and_eq_true, beq_iff_eq] at hb
      exact h ⟨r, by rw [hb.1.1, hb.1.2, hb.2]⟩
    · simp only [hb, Bool.not_false, if_true]

theorem readFs_short (bs : Bytes) (h : bs.length < 3) : readFs bs = .error .valueError := by
  apply fs_bad_magic
  rintro ⟨r, rfl⟩
  simp at h
  omega

section trunc
variable (s : Surf) (h : FsGoodMesh s)
include h

/-- **a file that ends inside the mesh part is rejected** — never a different mesh: `ValueError` if not even the magic
    number is complete, `IndexError` if the file ends before the two counts are complete, `ValueError` (reshape) if it
    ends inside the coordinate or the face block -/
theorem fs_truncated_mesh (m : Nat) (hm : m < (writeMesh s).length) :
    readFs ((writeFs s).take m) =
      .error (if m < 3 then .valueError else if m < s.stamp.length + 13 then .indexError else .valueError) := by
  obtain ⟨hst, hc3, hclt, hf3, hflt, hfr⟩ := h
  have hno : ∀ b ∈ s.stamp, b ≠ 10 := fun b hb => (hst b hb).1
  have hcl : (coordWords s).length = s.coords.length := List.length_map _
  have hfl : (faceWords s).length = s.faces.length := List.length_map _
  rw [writeFs, List.take_append_of_le_length (Nat.le_of_lt hm)]
  rw [length_writeMesh] at hm
  rw [writeMesh_eq]
  by_cases h3 : m < 3
  · rw [if_pos h3]
    exact readFs_short _ (by rw [List.length_take]; omega)
  rw [if_neg h3]
  obtain ⟨j, rfl⟩ : ∃ j, m = j + 3 := ⟨m - 3, by omega⟩
  simp only [List.take_succ_cons]
  rw [readFs_magic]
  by_cases hj1 : j ≤ s.stamp.length
  · -- inside the stamp line
    rw [if_pos (by omega), List.take_append_of_le_length hj1]
    have hno' : ∀ b ∈ s.stamp.take j, b ≠ 10 := fun b hb => hno b (List.mem_of_mem_take hb)
    unfold readBody
    simp only [readline_noNL _ hno', rstripNL_noNL _ hno',
      (isAscii_iff _).2 fun b hb => (hst b (List.mem_of_mem_take hb)).2, Bool.not_true, Bool.false_eq_true, if_false]
    exact readCounts_short1 _ [] (by simp)
  by_cases hj2 : j = s.stamp.length + 1
  · -- right after the first line break
    rw [if_pos (by omega), hj2, List.take_length_add_append]
    unfold readBody
    simp only [List.take_succ_cons, List.take_zero, readline_line s.stamp [] hno, rstripNL_line s.stamp hno,
      (isAscii_iff _).2 fun b hb => (hst b hb).2, Bool.not_true, Bool.false_eq_true, if_false]
    exact readCounts_short1 _ [] (by simp)
  obtain ⟨i, rfl⟩ : ∃ i, j = s.stamp.length + (i + 2) := ⟨j - s.stamp.length - 2, by omega⟩
  rw [List.take_length_add_append]
  simp only [List.take_succ_cons]
  rw [readBody_stamp s.stamp hst]
  by_cases hi1 : i < 4
  · -- inside `vnum`
    rw [if_pos (by omega)]
    exact readCounts_short1 _ _ (by rw [List.length_take]; omega)
  by_cases hi2 : i < 8
  · -- inside `fnum`
    obtain ⟨i', rfl⟩ : ∃ i', i = 4 + i' := ⟨i - 4, by omega⟩
    rw [if_pos (by omega), take_be32_add]
    exact readCounts_short2 _ _ _ (patI32_lt _) (by rw [List.length_take]; omega)
  -- inside the coordinate or the face block
  rw [if_neg (by omega)]
  obtain ⟨i', rfl⟩ : ∃ i', i = 4 + (4 + i') := ⟨i - 8, by omega⟩
  rw [take_be32_add, take_be32_add, readCounts_full _ _ _ _ (patI32_lt _) (patI32_lt _)]
  unfold readBlocks
  by_cases hi3 : i' < 4 * s.coords.length
  · -- the coordinate block is short
    rw [readBlock_short s.coords.length hclt hc3 _ (by rw [List.length_take]; omega)]
  · -- the face block is short
    obtain ⟨i'', rfl⟩ : ∃ i'', i' = ((coordWords s).flatMap be32).length + i'' :=
      ⟨i' - 4 * s.coords.length, by rw [length_flatMap_be32, hcl]; omega⟩
    have hcb := readBlock_words (coordWords s) (coordWords_lt s) (by rw [hcl]; exact hc3) (by rw [hcl]; exact hclt)
    rw [hcl] at hcb
    rw [List.take_length_add_append, hcb]
    simp only
    rw [length_flatMap_be32, hcl] at hm
    rw [readBlock_short s.faces.length hflt hf3 _ (by rw [List.length_take, length_flatMap_be32, hfl]; omega)]

/-- **a file that ends inside the footer gives an error or the same mesh** (stamp, coordinates, faces unchanged; only the
    footer information can be missing or incomplete) -/
theorem fs_truncated_footer (m : Nat) (hm : (writeMesh s).length ≤ m) :
    (∃ e, readFs ((writeFs s).take m) = .error e) ∨
    (∃ info', readFs ((writeFs s).take m) = .ok { s with info := info' }) := by
  obtain ⟨ft, hft⟩ : ∃ ft, writeFs s = writeMesh s ++ ft := ⟨_, rfl⟩
  rw [hft, List.take_append, List.take_of_length_le hm, readFs_mesh s h]
  cases readVolInfo _ with
  | error e => exact Or.inl ⟨e, rfl⟩
  | ok info => exact Or.inr ⟨info, rfl⟩
end trunc

/-- equality of reader answers can be decided (not an instance: used where a finite fact is evaluated) -/
def decEqExcept {α : Type} [DecidableEq α] : DecidableEq (Except FsFail α)
  | .ok a, .ok b => if h : a = b then isTrue (by rw [h]) else isFalse fun e => h (Except.ok.inj e)
  | .error a, .error b => if h : a = b then isTrue (by rw [h]) else isFalse fun e => h (Except.error.inj e)
  | .ok _, .error _ => isFalse fun e => by cases e
  | .error _, .ok _ => isFalse fun e => by cases e

/-- every proper cut of the two admissible extension codes: no footer information -/
theorem readVolInfo_cut_code :
    (∀ j < 4, readVolInfo ((([20] : List Int).flatMap encI32).take j) = .ok none) ∧
    (∀ j < 12, readVolInfo ((([2, 0, 20] : List Int).flatMap encI32).take j) = .ok none) := by
  let _ := @decEqExcept (Option VolInfo) _
  decide

/-- inside the extension code (the first 4 resp. 12 bytes of the footer) the answer is the mesh without footer
    information (`info := none`, Python: the empty dict with a warning) -/
theorem fs_truncated_head (s : Surf) (h : FsGood s) (vi : VolInfo) (hs : s.info = some vi) (j : Nat)
    (hj : j < 4 * vi.head.length) :
    readFs ((writeFs s).take ((writeMesh s).length + j)) = .ok { s with info := none } := by
  obtain ⟨hmesh, hi⟩ := h
  rw [hs] at hi
  have htake : (writeFs s).take ((writeMesh s).length + j) = writeMesh s ++ (writeInfo vi).take j := by
    unfold writeFs
    rw [hs, List.take_append, List.take_of_length_le (by omega)]
    simp
  have hlen : (vi.head.flatMap encI32).length = 4 * vi.head.length := by
    rcases hi.1 with hh | hh <;> rw [hh] <;> rfl
  rw [htake, readFs_mesh s hmesh, writeInfo_eq, List.take_append_of_le_length (by omega)]
  have hnone : readVolInfo ((vi.head.flatMap encI32).take j) = .ok none := by
    rcases hi.1 with hh | hh <;> rw [hh] at hj ⊢
    · exact readVolInfo_cut_code.1 j hj
    · exact readVolInfo_cut_code.2 j hj
  rw [hnone]

/-- a unit square split into two triangles (coordinates as float32 bit patterns: `0x3f800000` = 1.0), with the footer
    FreeSurfer writes -/
def exSurf : Surf :=
  { stamp := ascii "created by lapy on Mon Jan  1 00:00:00 2024"
    coords := [0, 0, 0, 0x3f800000, 0, 0, 0x3f800000, 0x3f800000, 0, 0, 0x3f800000, 0]
    faces := [0, 1, 2, 0, 2, 3]
    info := some
      { head := [2, 0, 20], valid := ascii "1  # volume info valid", filename := ascii "../mri/filled-pretess255.mgz"
        volume := [ascii "256", ascii "256", ascii "256"]
        voxelsize := [ascii "1.000000000000000e+00", ascii "1.000000000000000e+00", ascii "1.000000000000000e+00"]
        xras := [ascii "-1", ascii "0", ascii "0"], yras := [ascii "0", ascii "0", ascii "-1"]
        zras := [ascii "0", ascii "1", ascii "0"], cras := [ascii "0.5", ascii "-17.25", ascii "3"] } }

theorem exSurf_good : FsGood exSurf := by decide +kernel

/-- evaluation helper: the reader's answer is `ok s` -/
def isOk (r : Except FsFail Surf) (s : Surf) : Bool :=
  match r with
  | .ok s' => decide (s' = s)
  | .error _ => false

theorem eq_of_isOk {r : Except FsFail Surf} {s : Surf} (h : isOk r s = true) : r = .ok s := by
  cases r with
  | error e => simp [isOk] at h
  | ok s' => simp only [isOk, decide_eq_true_eq] at h; rw [h]

theorem exSurf_length : (writeMesh exSurf).length = 128 ∧ exSurf.stamp.length = 43 := by decide +kernel

example : readFs (writeFs exSurf) = .ok exSurf := fs_roundtrip exSurf exSurf_good
/-- the same by evaluation (kernel reduction, no axioms) -/
example : readFs (writeFs exSurf) = .ok exSurf := eq_of_isOk (by decide +kernel)
-- `maxRecDepth` is set for this test only, and its proof goes through without it: the length is taken in two parts, the mesh part
-- (`exSurf_length`) and the footer
set_option maxRecDepth 100000 in
example : (writeFs exSurf).length = 379 ∧ (writeMesh exSurf).length = 128 :=
  ⟨by rw [writeFs, List.length_append, exSurf_length.1]; decide +kernel, exSurf_length.1⟩
-- three cuts inside the mesh part: in the coordinate block (80 bytes), in the counts (50), after two bytes
example : readFs ((writeFs exSurf).take 80) = .error .valueError :=
  (fs_truncated_mesh exSurf exSurf_good.1 80 (by rw [exSurf_length.1]; decide)).trans
    (congrArg Except.error (by rw [exSurf_length.2]; rfl))
example : readFs ((writeFs exSurf).take 50) = .error .indexError :=
  (fs_truncated_mesh exSurf exSurf_good.1 50 (by rw [exSurf_length.1]; decide)).trans
    (congrArg Except.error (by rw [exSurf_length.2]; rfl))
example : readFs ((writeFs exSurf).take 2) = .error .valueError := by rfl
/-- the file ends inside the extension code: the mesh without footer information -/
example : readFs ((writeFs exSurf).take 133) = .ok { exSurf with info := none } := by
  have := fs_truncated_head exSurf exSurf_good _ rfl 5 (by decide)
  rwa [exSurf_length.1] at this
/-- the file ends inside the key lines -/
example : readFs ((writeFs exSurf).take 200) = .error .osError := by
  rw [writeFs, List.take_append, List.take_of_length_le (by rw [exSurf_length.1]; decide), readFs_mesh exSurf exSurf_good.1,
    exSurf_length.1]
  exact @of_decide_eq_true _ (decEqExcept _ _) (by decide +kernel)
/-- a different magic number -/
example : readFs (255 :: 255 :: 255 :: (writeFs exSurf).drop 3) = .error .valueError :=
  fs_bad_magic _ (by
    rintro ⟨r, h⟩
    injection h with _ h
    injection h with _ h
    injection h with h _
    exact absurd h (by decide))
/-- a negative face index is read back as such -/
example : readFs (writeFs { exSurf with faces := [0, 1, -1, 0, 2, 3], info := none }) =
    .ok { exSurf with faces := [0, 1, -1, 0, 2, 3], info := none } := fs_roundtrip _ (by decide +kernel)

end LapyVerif.Props.C14b
