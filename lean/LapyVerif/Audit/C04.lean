import LapyVerif.Props.C04
import LapyVerif.Props.C04b
import LapyVerif.Bridge.Fem
import LapyVerif.Bridge.Spectral2
import LapyVerif.Bridge.SolverGlue
import LapyVerif.Bridge.ShapeDNA
#print axioms LapyVerif.Coo.assembled_map
#print axioms LapyVerif.Coo.form_assembled_congr
#print axioms LapyVerif.Coo.entry_congr
#print axioms LapyVerif.Coo.entry_perm
#print axioms LapyVerif.triVol_similarity
#print axioms LapyVerif.Props.C04.stiffTria_similarity
#print axioms LapyVerif.Props.C04.massTria_similarity
#print axioms LapyVerif.triVol_isometry
#print axioms LapyVerif.Props.C04.stiffTria_isometry_all
#print axioms LapyVerif.Props.C04.massTria_isometry_all
#print axioms LapyVerif.Props.C04.massTria_isometry
#print axioms LapyVerif.Props.C04.stiffTria_isometry'
#print axioms LapyVerif.tetVol_similarity
#print axioms LapyVerif.Props.C04.nonDegenTet_similarity
#print axioms LapyVerif.Props.C01.stiffTet_blocks
#print axioms LapyVerif.Props.C04.tetOff_similarity
#print axioms LapyVerif.Props.C04.tetStiffBlock_similarity
#print axioms LapyVerif.Props.C04.stiffTet_similarity
#print axioms LapyVerif.Props.C04.massTet_similarity
#print axioms LapyVerif.tetVol_isometry
#print axioms LapyVerif.Props.C04.stiffTet_isometry_all
#print axioms LapyVerif.Props.C04.massTet_isometry_all
#print axioms LapyVerif.Props.C04.stiffTet_isometry
#print axioms LapyVerif.Props.C04.massTet_isometry
#print axioms LapyVerif.Props.C04.triVols_relabel
#print axioms LapyVerif.Props.C04.tetVols_relabel
#print axioms LapyVerif.Props.C04.flatten_zip_relabel
#print axioms LapyVerif.Props.C04.stiffTria_relabel
#print axioms LapyVerif.Props.C04.massTria_relabel
#print axioms LapyVerif.Props.C04.stiffTet_relabel
#print axioms LapyVerif.Props.C04.massTet_relabel
#print axioms LapyVerif.Props.C04.relabel_entry
#print axioms LapyVerif.Props.C04.relabel_entry_outside
#print axioms LapyVerif.Props.C04.stiffTria_relabel_entry
#print axioms LapyVerif.Props.C04.massTria_relabel_entry
#print axioms LapyVerif.Props.C04.stiffTet_relabel_entry
#print axioms LapyVerif.Props.C04.massTet_relabel_entry
#print axioms LapyVerif.Props.C04.zip_clamped_perm
#print axioms LapyVerif.Props.C04.stiffTria_perm
#print axioms LapyVerif.Props.C04.massTria_perm
#print axioms LapyVerif.Props.C04.stiffTet_perm
#print axioms LapyVerif.Props.C04.massTet_perm
#print axioms LapyVerif.Props.C04.elem_perm
#print axioms LapyVerif.Props.C04.elem_perm_mass
#print axioms LapyVerif.Props.C04.elem_perm_tet
#print axioms LapyVerif.Props.C04.elem_perm_mass_tet
#print axioms LapyVerif.Props.C01.nonDegenTri_reorder
#print axioms LapyVerif.Props.C02.form_triMassBlock
#print axioms LapyVerif.Props.C02.form_tetMassBlock
#print axioms LapyVerif.Props.C04.mass_form_reorder
#print axioms LapyVerif.Props.C04.mass_entry_reorder
#print axioms LapyVerif.Props.C01.triVol_reorder
#print axioms LapyVerif.Props.C04.tetVol_reorder
#print axioms LapyVerif.Props.C04.gradTet_iff
#print axioms LapyVerif.Props.C04.gradTet_reorder
#print axioms LapyVerif.Props.C04.nonDegenTet_reorder
#print axioms LapyVerif.Props.C04.stiff_form_reorder_tet
#print axioms LapyVerif.Props.C04.stiff_entry_reorder_tet
#print axioms LapyVerif.Props.C04.mass_form_reorder_tet
#print axioms LapyVerif.Props.C04.mass_entry_reorder_tet
#print axioms LapyVerif.Props.C04.pencil_transport
#print axioms LapyVerif.Props.C04.pencil_similarity_tria
#print axioms LapyVerif.Props.C04.pencil_similarity_tet
#print axioms LapyVerif.Props.C04.form_relabel
#print axioms LapyVerif.Props.C04.mulVec_relabel
#print axioms LapyVerif.Props.C04.mulVec_relabel_outside
#print axioms LapyVerif.Props.C04.pencil_relabel
#print axioms LapyVerif.Props.C04.normalize_ev_scale
#print axioms LapyVerif.Props.C04.reweight_spec
#print axioms LapyVerif.Props.C04.reweight_length
#print axioms LapyVerif.Props.C04.dist_spec
#print axioms LapyVerif.Props.C04.ex_triVol
#print axioms LapyVerif.Props.C04.ex_nonDegenTri
#print axioms LapyVerif.Props.C04.ex_nonDegenTri_scaled
#print axioms LapyVerif.Props.C04.ex_nonDegenTet
#print axioms LapyVerif.Bridge.fem_tria_A
#print axioms LapyVerif.Bridge.fem_tria_B
#print axioms LapyVerif.Bridge.fem_tet_A
#print axioms LapyVerif.Bridge.fem_tet_B
#print axioms LapyVerif.Props.C04.spectral_reweight_eq
#print axioms LapyVerif.Props.C04.spectral_distance_eq
#print axioms LapyVerif.Props.C04.pow23_real
#print axioms LapyVerif.Props.C04.normalizeEv_spec
#print axioms LapyVerif.Props.C04.normalizeEv_scale
#print axioms LapyVerif.Props.C04.dictFields_spec
#print axioms LapyVerif.Props.C04.spectral_shiftMat_eq
#print axioms LapyVerif.rpow_real
#print axioms LapyVerif.Bridge.misc_reweight
#print axioms LapyVerif.Bridge.census_FemTria_pcCount
#print axioms LapyVerif.Bridge.census_FemTriaMass_pcCount
#print axioms LapyVerif.Bridge.census_FemTriaAniso_pcCount
#print axioms LapyVerif.Bridge.census_FemTet_pcCount
#print axioms LapyVerif.Bridge.census_HeatKernel_pcCount
#print axioms LapyVerif.Bridge.census_Misc_pcCount
#print axioms LapyVerif.Bridge.glue_sigma
#print axioms LapyVerif.Bridge.glue_shifted
#print axioms LapyVerif.Bridge.glue_calls
#print axioms LapyVerif.Bridge.glue_calls_names
#print axioms LapyVerif.Bridge.census_SolverGlue_pcCount
#print axioms LapyVerif.Bridge.sdna_normalize
#print axioms LapyVerif.Bridge.sdna_facts
#print axioms LapyVerif.Bridge.sdna_fields
#print axioms LapyVerif.Bridge.census_ShapeDNA_pcCount
