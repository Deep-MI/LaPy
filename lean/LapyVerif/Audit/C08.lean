import LapyVerif.Props.C08
import LapyVerif.Props.C06
import LapyVerif.Props.C03
import LapyVerif.Bridge.DiffGeo
import LapyVerif.Bridge.Fem
import LapyVerif.Bridge.Poisson
import LapyVerif.Bridge.GeoGlue
import LapyVerif.Bridge.Dispatch
#print axioms LapyVerif.Props.C06.triDiv_sum_zero
#print axioms LapyVerif.Props.C06.tetDiv_sum_zero
#print axioms LapyVerif.Props.C06.triDiv_grad
#print axioms LapyVerif.Props.C06.tetDiv_grad
#print axioms LapyVerif.Props.C03.kernel_const_on_components
#print axioms LapyVerif.Props.C03.kernel_const_on_components_tet
#print axioms LapyVerif.Bridge.diff_tri_grad
#print axioms LapyVerif.Bridge.diff_tri_div
#print axioms LapyVerif.Bridge.DiffTetPos_grad
#print axioms LapyVerif.Bridge.DiffTetNeg_grad
#print axioms LapyVerif.Bridge.DiffTetPos_div
#print axioms LapyVerif.Bridge.DiffTetNeg_div
#print axioms LapyVerif.Bridge.fem_tria_A
#print axioms LapyVerif.Bridge.fem_tet_A
#print axioms LapyVerif.Props.C08.geo_rhs_compatible
#print axioms LapyVerif.Props.C08.geo_rhs_compatible_tet
#print axioms LapyVerif.Props.C08.rot_rhs_compatible
#print axioms LapyVerif.Props.C08.geo_rhs_compatible_components
#print axioms LapyVerif.Props.C08.geo_rhs_compatible_components_tet
#print axioms LapyVerif.foldl_min_spec
#print axioms LapyVerif.Props.C08.runMin_spec
#print axioms LapyVerif.Props.C08.shiftMin_eq
#print axioms LapyVerif.Props.C08.shiftMin_spec
#print axioms LapyVerif.Props.C08.shiftMin_nil
#print axioms LapyVerif.V3.normSq_nonneg
#print axioms LapyVerif.Props.C08.normSq_ne_zero_of_ne
#print axioms LapyVerif.Props.C08.normalizeRow_eq
#print axioms LapyVerif.Props.C08.normalizeRow_unit
#print axioms LapyVerif.Props.C08.normalizeRow_zero
#print axioms LapyVerif.Coo.mulVec_add
#print axioms LapyVerif.Props.C08.rows_zero_of_rhs
#print axioms LapyVerif.Props.C08.solution_of_rhs
#print axioms LapyVerif.Props.C08.solution_of_rhs_tet
#print axioms LapyVerif.Props.C08.triGrad_affine_flat
#print axioms LapyVerif.Props.C08.triGrad_affine_field
#print axioms LapyVerif.Props.C08.tetGrad_affine_field
#print axioms LapyVerif.Props.C08.geo_field_affine_tri
#print axioms LapyVerif.Props.C08.geo_affine_tri
#print axioms LapyVerif.Props.C08.geo_solution_affine
#print axioms LapyVerif.Props.C08.geo_field_affine_tet
#print axioms LapyVerif.Props.C08.geo_affine_tet
#print axioms LapyVerif.Props.C08.geo_solution_affine_tet
#print axioms LapyVerif.Props.C08.unitVec_spec
#print axioms LapyVerif.Props.C08.rotZ_spec
#print axioms LapyVerif.Props.C08.triNormal_flat
#print axioms LapyVerif.Props.C08.rot_field_affine
#print axioms LapyVerif.Props.C08.rot_rhs_affine
#print axioms LapyVerif.Props.C08.rot_solution_affine
#print axioms LapyVerif.Props.C08.vtxSq_flat
#print axioms LapyVerif.Props.C08.tsSq_triN
#print axioms LapyVerif.Props.C08.tsSq_nonDegen
#print axioms LapyVerif.Props.C08.tsSq_oriented
#print axioms LapyVerif.Bridge.free_idx
#print axioms LapyVerif.Bridge.poisson_system
#print axioms LapyVerif.Bridge.poisson_result
#print axioms LapyVerif.Bridge.poisson_run
#print axioms LapyVerif.Bridge.poisson_system_neumann
#print axioms LapyVerif.Bridge.poisson_result_neumann
#print axioms LapyVerif.Bridge.poisson_format
#print axioms LapyVerif.Bridge.census_DiffTri_pcCount
#print axioms LapyVerif.Bridge.census_DiffTetPos_pcCount
#print axioms LapyVerif.Bridge.census_DiffTetNeg_pcCount
#print axioms LapyVerif.Bridge.census_FemTria_pcCount
#print axioms LapyVerif.Bridge.census_FemTriaMass_pcCount
#print axioms LapyVerif.Bridge.census_FemTriaAniso_pcCount
#print axioms LapyVerif.Bridge.census_FemTet_pcCount
#print axioms LapyVerif.Bridge.census_PoissonSys_pcCount
#print axioms LapyVerif.Bridge.geo_field
#print axioms LapyVerif.Bridge.rot_field
#print axioms LapyVerif.Bridge.geo_result
#print axioms LapyVerif.Bridge.geo_facts
#print axioms LapyVerif.Bridge.census_GeoGlue_pcCount
#print axioms LapyVerif.Bridge.dispatch_facts
