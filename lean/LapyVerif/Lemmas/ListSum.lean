import Mathlib.Algebra.BigOperators.Ring.List
import Mathlib.Algebra.Field.Basic
/-  Sums over a list: of quotients and of differences (Mathlib has the product and sum forms), over a `flatMap`, over a
    `filter` (the indicator form in which `Coo.entry`, `Coo.mulVec`, `Poisson.scatter`, `Heat.seedVec` are read). -/
namespace List
variable {α : Type}

theorem sum_map_div {K : Type} [DivisionRing K] (l : List α) (f : α → K) (c : K) :
    (l.map fun a => f a / c).sum = (l.map f).sum / c := by
  simp only [div_eq_mul_inv, List.sum_map_mul_right]

theorem sum_map_sub {M : Type} [AddCommGroup M] (l : List α) (f g : α → M) :
    (l.map fun a => f a - g a).sum = (l.map f).sum - (l.map g).sum := by
  induction l with
  | nil => simp
  | cons a l ih => simp only [List.map_cons, List.sum_cons, ih, sub_add_sub_comm]

theorem sum_map_flatMap {β M : Type} [AddMonoid M] (l : List α) (f : α → List β) (g : β → M) :
    ((l.flatMap f).map g).sum = (l.map fun a => ((f a).map g).sum).sum := by
  simp only [List.flatMap_def, List.map_flatten, List.sum_flatten, List.map_map, Function.comp_def]

theorem sum_map_filter {M : Type} [AddCommMonoid M] (p : α → Bool) (f : α → M) (l : List α) :
    ((l.filter p).map f).sum = (l.map fun a => if p a then f a else 0).sum := by
  simp [List.sum_map_ite]

end List
