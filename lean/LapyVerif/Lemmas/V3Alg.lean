import Mathlib.Algebra.BigOperators.Group.List.Basic
import LapyVerif.Lemmas.BridgeTac
/-
  Vector algebra of `V3 ℝ`: `dot` is a symmetric bilinear form, `cross` an alternating bilinear map, and the
  identities tying the two together.  Proofs elsewhere expand by bilinearity down to dot products of a few edge
  vectors and let `ring` work on those as atoms.

  Checked in coordinates: the vector-space laws, `dot_comm` and linearity of `dot` in its first argument, `ext_dot`,
  `cross_anticomm`, the cyclic symmetry of the triple product (`dot_cross_rot`), `dot_cross_self_left`,
  `cross_sub_sub`, Cramer's rule (`det_smul`) and Binet–Cauchy (`dot_cross_cross`).  Everything else follows: `cross`
  is linear in either argument because `w·(a×b)` can be turned until that argument is the first factor of `dot`;
  `a×(b×c)`, Lagrange and the Gram determinant come from Binet–Cauchy.

  Two spellings meet here.  `normSq a` is `dot a a` by definition (`normSq_eq_dot`); statements keep whichever the
  model writes.  The zero vector is `⟨0, 0, 0⟩` wherever a statement is meant to be rewritten with (the model's
  guards return that literal) and `0` in the additive laws used with `List.sum`; the two are equal by `rfl`.
-/
namespace LapyVerif.V3

theorem normSq_eq_dot (a : V3 ℝ) : normSq a = dot a a := rfl

theorem dot_comm (a b : V3 ℝ) : dot a b = dot b a := by v3_flat; ring

theorem dot_add_left (a b c : V3 ℝ) : dot (a + b) c = dot a c + dot b c := by v3_flat; ring
theorem dot_sub_left (a b c : V3 ℝ) : dot (a - b) c = dot a c - dot b c := by v3_flat; ring
theorem dot_neg_left (a b : V3 ℝ) : dot (-a) b = -dot a b := by v3_flat; ring
theorem dot_smul_left (c : ℝ) (a b : V3 ℝ) : dot (smul c a) b = c * dot a b := by v3_flat; ring
theorem dot_add_right (a b c : V3 ℝ) : dot a (b + c) = dot a b + dot a c := by
  rw [dot_comm, dot_add_left, dot_comm b, dot_comm c]
theorem dot_sub_right (a b c : V3 ℝ) : dot a (b - c) = dot a b - dot a c := by
  rw [dot_comm, dot_sub_left, dot_comm b, dot_comm c]
theorem dot_neg_right (a b : V3 ℝ) : dot a (-b) = -dot a b := by rw [dot_comm, dot_neg_left, dot_comm]
theorem dot_smul_right (c : ℝ) (a b : V3 ℝ) : dot a (smul c b) = c * dot a b := by
  rw [dot_comm, dot_smul_left, dot_comm]

theorem dot_self_nonneg (a : V3 ℝ) : 0 ≤ dot a a :=
  add_nonneg (add_nonneg (mul_self_nonneg _) (mul_self_nonneg _)) (mul_self_nonneg _)

theorem normSq_nonneg (a : V3 ℝ) : 0 ≤ normSq a := dot_self_nonneg a

theorem normSq_eq_zero {a : V3 ℝ} (h : normSq a = 0) : a.x = 0 ∧ a.y = 0 ∧ a.z = 0 := by
  have hxy := add_nonneg (mul_self_nonneg a.x) (mul_self_nonneg a.y)
  obtain ⟨h12, h3⟩ := (add_eq_zero_iff_of_nonneg hxy (mul_self_nonneg a.z)).1 h
  obtain ⟨h1, h2⟩ := (add_eq_zero_iff_of_nonneg (mul_self_nonneg a.x) (mul_self_nonneg a.y)).1 h12
  exact ⟨mul_self_eq_zero.1 h1, mul_self_eq_zero.1 h2, mul_self_eq_zero.1 h3⟩

theorem eq_zero_of_dot_self (a : V3 ℝ) (h : dot a a = 0) : a = ⟨0, 0, 0⟩ :=
  have ⟨hx, hy, hz⟩ := normSq_eq_zero h
  V3.ext' hx hy hz

theorem eq_zero_of_forall_dot {S : V3 ℝ} (h : ∀ c, dot c S = 0) : S = 0 := eq_zero_of_dot_self S (h S)

/-- a vector is known from its products with all test vectors: a linear identity between vectors becomes, by
    bilinearity, an identity between the scalars `w·vᵢ` that `ring` closes without coordinates -/
theorem ext_dot {u v : V3 ℝ} (h : ∀ w, dot w u = dot w v) : u = v := by
  have hx := h ⟨1, 0, 0⟩; have hy := h ⟨0, 1, 0⟩; have hz := h ⟨0, 0, 1⟩
  simp only [dot, one_mul, zero_mul, add_zero, zero_add] at hx hy hz
  exact V3.ext' hx hy hz

theorem dot_zero_left (b : V3 ℝ) : dot (⟨0, 0, 0⟩ : V3 ℝ) b = 0 := by v3_flat; ring
theorem dot_zero_right (a : V3 ℝ) : dot a (⟨0, 0, 0⟩ : V3 ℝ) = 0 := (dot_comm _ _).trans (dot_zero_left a)

theorem normSq_smul (c : ℝ) (a : V3 ℝ) : normSq (smul c a) = c * c * normSq a := by
  rw [normSq_eq_dot, dot_smul_left, dot_smul_right, ← mul_assoc]; rfl
theorem normSq_neg (a : V3 ℝ) : normSq (-a) = normSq a := by
  rw [normSq_eq_dot, dot_neg_left, dot_neg_right, neg_neg]; rfl
theorem normSq_ez : normSq (⟨0, 0, 1⟩ : V3 ℝ) = 1 := by v3_flat; norm_num

theorem normSq_normalize {g : V3 ℝ} (h : 0 < normSq g) : normSq (smul (1 / Real.sqrt (normSq g)) g) = 1 := by
  rw [normSq_smul, div_mul_div_comm, one_mul, Real.mul_self_sqrt h.le, div_mul_cancel₀ _ h.ne']

theorem cross_anticomm (a b : V3 ℝ) : cross a b = -cross b a := by
  v3_flat [V3.ext'_iff]; and_intros <;> ring

theorem dot_cross_rot (a b c : V3 ℝ) : dot a (cross b c) = dot b (cross c a) := by v3_flat; ring
theorem dot_cross_swap (a b c : V3 ℝ) : dot (cross a b) c = dot a (cross b c) := (dot_comm _ _).trans (dot_cross_rot c a b)

-- tested against `w`, the triple product is turned until the argument in question stands first: `w·(x×c) = x·(c×w)`
theorem cross_add_left (a b c : V3 ℝ) : cross (a + b) c = cross a c + cross b c := ext_dot fun w => by
  rw [dot_add_right, dot_cross_rot w, dot_add_left, dot_cross_rot w a, dot_cross_rot w b]
theorem cross_smul_left (c : ℝ) (a b : V3 ℝ) : cross (smul c a) b = smul c (cross a b) := ext_dot fun w => by
  rw [dot_smul_right, dot_cross_rot w, dot_smul_left, dot_cross_rot w a]
theorem cross_neg_left (a b : V3 ℝ) : cross (-a) b = -cross a b := ext_dot fun w => by
  rw [dot_neg_right, dot_cross_rot w, dot_neg_left, dot_cross_rot w a]
-- and `w·(a×x) = x·(w×a)`
theorem cross_add_right (a b c : V3 ℝ) : cross a (b + c) = cross a b + cross a c := ext_dot fun w => by
  rw [dot_add_right, ← dot_cross_rot _ w, dot_add_left, ← dot_cross_rot b w, ← dot_cross_rot c w]
theorem cross_sub_right (a b c : V3 ℝ) : cross a (b - c) = cross a b - cross a c := ext_dot fun w => by
  rw [dot_sub_right, ← dot_cross_rot _ w, dot_sub_left, ← dot_cross_rot b w, ← dot_cross_rot c w]
theorem cross_smul_right (c : ℝ) (a b : V3 ℝ) : cross a (smul c b) = smul c (cross a b) := ext_dot fun w => by
  rw [dot_smul_right, ← dot_cross_rot _ w, dot_smul_left, ← dot_cross_rot b w]
theorem cross_neg_right (a b : V3 ℝ) : cross a (-b) = -cross a b := ext_dot fun w => by
  rw [dot_neg_right, ← dot_cross_rot _ w, dot_neg_left, ← dot_cross_rot b w]

protected theorem smul_smul (c d : ℝ) (a : V3 ℝ) : smul c (smul d a) = smul (c * d) a := by
  v3_flat [V3.ext'_iff]; and_intros <;> ring

protected theorem one_smul (a : V3 ℝ) : smul 1 a = a := by
  v3_flat [V3.ext'_iff]; and_intros <;> ring

protected theorem zero_smul (a : V3 ℝ) : smul 0 a = 0 := by
  apply V3.ext' <;> exact zero_mul _
protected theorem smul_zero (c : ℝ) : smul c (0 : V3 ℝ) = 0 := by
  apply V3.ext' <;> exact mul_zero _

/-- normalisations in `Model/{Measures,Curvature,Geo}` divide coordinate by coordinate -/
theorem mk_div (p : V3 ℝ) (L : ℝ) : (⟨p.x / L, p.y / L, p.z / L⟩ : V3 ℝ) = smul (1 / L) p := by
  v3_flat [V3.ext'_iff]; and_intros <;> ring

protected theorem neg_neg (a : V3 ℝ) : - -a = a := by
  v3_flat [V3.ext'_iff]; and_intros <;> ring

protected theorem neg_sub (a b : V3 ℝ) : -(a - b) = b - a := by
  v3_flat [V3.ext'_iff]; and_intros <;> ring

/-- difference vectors do not see a translation -/
protected theorem add_sub_add_right (a b c : V3 ℝ) : (a + c) - (b + c) = a - b := by
  v3_flat [V3.ext'_iff]; and_intros <;> ring

protected theorem add_assoc (a b c : V3 ℝ) : a + b + c = a + (b + c) := by
  v3_flat [V3.ext'_iff]; and_intros <;> ring
protected theorem add_comm (a b : V3 ℝ) : a + b = b + a := by
  v3_flat [V3.ext'_iff]; and_intros <;> ring
protected theorem add_zero (a : V3 ℝ) : a + 0 = a := by
  apply V3.ext' <;> exact add_zero _
protected theorem zero_add (a : V3 ℝ) : 0 + a = a := by
  apply V3.ext' <;> exact zero_add _

/-- NumPy's left-to-right accumulation is the sum of the list -/
theorem foldl_add (l : List (V3 ℝ)) (z : V3 ℝ) : l.foldl (· + ·) z = z + l.sum := by
  induction l generalizing z with
  | nil => exact (V3.add_zero z).symm
  | cons a l ih => rw [List.foldl_cons, ih, List.sum_cons, V3.add_assoc]

/-- any additive coordinate (a component, a dot product) of a sum of vectors is the sum of the coordinates -/
theorem sum_co (co : V3 ℝ → ℝ) (h0 : co 0 = 0) (hadd : ∀ a b, co (a + b) = co a + co b) {α : Type} (l : List α)
    (f : α → V3 ℝ) : co (l.map f).sum = (l.map fun a => co (f a)).sum := by
  induction l with
  | nil => exact h0
  | cons a l ih => rw [List.map_cons, List.sum_cons, hadd, ih, List.map_cons, List.sum_cons]

theorem dot_sum {α : Type} (c : V3 ℝ) (l : List α) (f : α → V3 ℝ) :
    dot c (l.map f).sum = (l.map fun a => dot c (f a)).sum :=
  sum_co (dot c) (dot_zero_right c) (dot_add_right c) l f

/-- every edge of a simplex is a difference of two edges at the base vertex `o` -/
theorem sub_eq_sub_sub_sub (o a b : V3 ℝ) : b - a = (b - o) - (a - o) := by
  v3_flat [V3.ext'_iff]; and_intros <;> ring

theorem dot_cross_self_left (a b : V3 ℝ) : dot (cross a b) a = 0 := by v3_flat; ring
theorem dot_cross_self_right (a b : V3 ℝ) : dot (cross a b) b = 0 := by
  rw [cross_anticomm, dot_neg_left, dot_cross_self_left, neg_zero]
theorem dot_self_cross_right (a b : V3 ℝ) : dot b (cross a b) = 0 := (dot_comm _ _).trans (dot_cross_self_right a b)

/-- twice the vector area of the triangle `o a b` is the circulation of `p × q` round its boundary: no corner is
    singled out, so the statement is the same for every rotation of the corners and changes sign under a swap -/
theorem cross_sub_sub (o a b : V3 ℝ) : cross (a - o) (b - o) = cross o a + cross a b + cross b o := by
  v3_flat [V3.ext'_iff]; and_intros <;> ring

theorem cross_sub_self (a b : V3 ℝ) : cross a (b - a) = cross a b := ext_dot fun w => by
  rw [← dot_cross_rot _ w, dot_sub_left, dot_self_cross_right, sub_zero, ← dot_cross_rot b w]

/-- the cone over a triangle with apex at the origin: the edge vectors may be replaced by the corner positions -/
theorem dot_cross_sub_sub (o a b : V3 ℝ) : dot o (cross (a - o) (b - o)) = dot o (cross a b) := by
  rw [cross_sub_sub, dot_add_right, dot_add_right, dot_comm o (cross o a), dot_cross_self_left, dot_self_cross_right,
    zero_add, add_zero]

/-- Cramer's rule: a vector is known from its dot products with three vectors -/
theorem det_smul (a b c d : V3 ℝ) :
    smul (dot a (cross b c)) d
      = smul (dot d a) (cross b c) + smul (dot d b) (cross c a) + smul (dot d c) (cross a b) := by
  v3_flat [V3.ext'_iff]; and_intros <;> ring

/-- the vector given by Cramer's rule has the prescribed dot products `p q r` with `a b c` -/
theorem dot_cramer (a b c : V3 ℝ) (p q r : ℝ) (hd : dot a (cross b c) ≠ 0) :
    dot (smul (1 / dot a (cross b c)) (smul p (cross b c) + smul q (cross c a) + smul r (cross a b))) a = p ∧
    dot (smul (1 / dot a (cross b c)) (smul p (cross b c) + smul q (cross c a) + smul r (cross a b))) b = q ∧
    dot (smul (1 / dot a (cross b c)) (smul p (cross b c) + smul q (cross c a) + smul r (cross a b))) c = r := by
  have h1 : dot (cross c a) b = dot a (cross b c) := by rw [dot_cross_swap, dot_cross_rot a b c, dot_cross_rot b c a]
  have h2 : dot (cross a b) c = dot a (cross b c) := dot_cross_swap a b c
  have h3 : dot (cross b c) a = dot a (cross b c) := dot_comm _ _
  simp only [dot_smul_left, dot_add_left, dot_cross_self_left, dot_cross_self_right, h1, h2, h3]
  refine ⟨?_, ?_, ?_⟩ <;> field_simp <;> ring

theorem eq_cramer (a b c g : V3 ℝ) (hd : dot a (cross b c) ≠ 0) :
    g = smul (1 / dot a (cross b c))
      (smul (dot g a) (cross b c) + smul (dot g b) (cross c a) + smul (dot g c) (cross a b)) := by
  rw [← det_smul, V3.smul_smul, one_div_mul_cancel hd, V3.one_smul]

theorem eq_zero_of_orth {a b c d : V3 ℝ} (hdet : dot a (cross b c) ≠ 0) (ha : dot d a = 0) (hb : dot d b = 0)
    (hc : dot d c = 0) : d = ⟨0, 0, 0⟩ := by
  rw [eq_cramer a b c d hdet, ha, hb, hc, V3.zero_smul, V3.zero_smul, V3.zero_smul, V3.add_zero, V3.add_zero, V3.smul_zero]
  rfl

end LapyVerif.V3

namespace LapyVerif
open V3

-- in the root namespace: `LapyVerif.dot_cross_cross` is an end result under that name, and its companions stand with it

/-- Binet–Cauchy -/
theorem dot_cross_cross (a b c d : V3 ℝ) : dot (cross a b) (cross c d) = dot a c * dot b d - dot a d * dot b c := by
  v3_flat; ring

/-- Lagrange's identity -/
theorem normSq_cross (a b : V3 ℝ) : normSq (cross a b) = normSq a * normSq b - dot a b * dot a b :=
  (dot_cross_cross a b a b).trans (by rw [dot_comm b a]; rfl)

theorem V3.cross_cross_right (a b c : V3 ℝ) : cross a (cross b c) = smul (dot a c) b - smul (dot a b) c :=
  ext_dot fun w => by
    rw [← dot_cross_swap, dot_cross_cross, dot_sub_right, dot_smul_right, dot_smul_right]; ring

/-- squared triple product = Gram determinant: Lagrange for `a` and `b × c`, with `a × (b × c) = (a·c) b − (a·b) c` -/
theorem triple_sq (a b c : V3 ℝ) :
    dot a (cross b c) * dot a (cross b c) =
      normSq a * (normSq b * normSq c - dot b c * dot b c) - dot a b * (dot a b * normSq c - dot b c * dot a c)
        + dot a c * (dot a b * dot b c - normSq b * dot a c) := by
  have h := normSq_cross a (cross b c)
  rw [normSq_cross b c, cross_cross_right] at h
  simp only [normSq_eq_dot, dot_sub_left, dot_sub_right, dot_smul_left, dot_smul_right, dot_comm c b] at h ⊢
  linear_combination h

/-- for an orthonormal pair, the squared triple product with `F` is what `F·F` exceeds the two squared components by
    (the Gram determinant): Bessel's inequality with its defect -/
theorem triple_sq_orth {u1 u2 : V3 ℝ} (h11 : dot u1 u1 = 1) (h22 : dot u2 u2 = 1) (h12 : dot u1 u2 = 0) (F : V3 ℝ) :
    dot F (cross u1 u2) * dot F (cross u1 u2) = dot F F - dot u1 F * dot u1 F - dot u2 F * dot u2 F := by
  have e := triple_sq F u1 u2
  simp only [normSq_eq_dot] at e
  rw [h11, h22, h12, dot_comm F u1, dot_comm F u2] at e
  linarith

end LapyVerif
