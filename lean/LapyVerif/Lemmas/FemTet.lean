import LapyVerif.Spec.Grad
import LapyVerif.Model.Fem
/-  Per-tetrahedron identities behind C01/C02. -/
namespace LapyVerif
open V3

/-- complement of the code's guard `vol == 0` on every tetrahedron -/
def NonDegenTet (vtx : Nat → V3 ℝ) (ts : List Tet) : Prop :=
  ∀ τ ∈ ts, Fem.tetVol (vtx τ.1) (vtx τ.2.1) (vtx τ.2.2.1) (vtx τ.2.2.2) ≠ 0

/-- the sixteen triplets of one tetrahedron from its six off-diagonal values (the tetrahedral `Fem.triBlockA`): the
    diagonal makes every row sum zero, everything is divided by six, and `Fem.tetBlock` is handed the values in the
    order `o12 o23 o13 o14 o24 o34` of the code's `column_stack` -/
noncomputable def tetBlockA (τ : Tet) (a12 a13 a14 a23 a24 a34 : ℝ) : Coo ℝ :=
  Fem.tetBlock τ (a12 / 6) (a23 / 6) (a13 / 6) (a14 / 6) (a24 / 6) (a34 / 6)
    ((-a12 - a13 - a14) / 6) ((-a12 - a23 - a24) / 6) ((-a13 - a23 - a34) / 6) ((-a14 - a24 - a34) / 6)

/-- the stiffness block of one tetrahedron as `Fem.stiffTet` builds it when `vol` is not replaced; the six values
    `a12 a13 a14 a23 a24 a34` of `tetOff` are read by projections because that is what the `let` pattern of
    `stiffTet` unfolds to -/
noncomputable def tetStiffBlock (vtx : Nat → V3 ℝ) (τ : Tet) : Coo ℝ :=
  let o := Fem.tetOff (vtx τ.1) (vtx τ.2.1) (vtx τ.2.2.1) (vtx τ.2.2.2)
    (Fem.tetVol (vtx τ.1) (vtx τ.2.1) (vtx τ.2.2.1) (vtx τ.2.2.2))
  tetBlockA τ o.1 o.2.1 o.2.2.1 o.2.2.2.1 o.2.2.2.2.1 o.2.2.2.2.2

namespace FemTet

theorem tetVol_eq (v1 v2 v3 v4 : V3 ℝ) : Fem.tetVol v1 v2 v3 v4 = |Spec.tetDet v1 v2 v3 v4| := by
  rw [Fem.tetVol, abs_real, Spec.tetDet_code, abs_neg]

theorem tetVol_eq_six_vol (v1 v2 v3 v4 : V3 ℝ) : Fem.tetVol v1 v2 v3 v4 = 6 * Spec.tetVolume v1 v2 v3 v4 := by
  rw [tetVol_eq, Spec.tetVolume]; ring

/-- a block with zero row sums is a weighted sum of products of edge differences -/
theorem tetBlockA_form (t1 t2 t3 t4 : Nat) (a12 a13 a14 a23 a24 a34 : ℝ) (f g : Nat → ℝ) :
    Coo.form (tetBlockA (t1, t2, t3, t4) a12 a13 a14 a23 a24 a34) f g
      = -(a12 * ((f t2 - f t1) * (g t2 - g t1)) + a13 * ((f t3 - f t1) * (g t3 - g t1))
          + a14 * ((f t4 - f t1) * (g t4 - g t1)) + a23 * ((f t3 - f t2) * (g t3 - g t2))
          + a24 * ((f t4 - f t2) * (g t4 - g t2)) + a34 * ((f t4 - f t3) * (g t4 - g t3))) / 6 := by
  simp only [tetBlockA, Fem.tetBlock, Coo.form, List.map, List.sum_cons, List.sum_nil]
  ring

theorem tetBlockA_smul (τ : Tet) (c a12 a13 a14 a23 a24 a34 : ℝ) :
    tetBlockA τ (c * a12) (c * a13) (c * a14) (c * a23) (c * a24) (c * a34)
      = (tetBlockA τ a12 a13 a14 a23 a24 a34).map fun e => (e.1, c * e.2) := by
  simp only [tetBlockA, Fem.tetBlock, List.map_cons, List.map_nil, ← mul_div_assoc, mul_sub, mul_neg]

/-- the block of `_fem_tetra` for any `vol`: `f·A_τ·g = F·G / (6 vol)` with `F`, `G` the `Spec.faceComb` of the corner
    values; the six entries of `tetOff` are the Binet–Cauchy expansions of the products of two of the cross products -/
theorem iso_local_form (v1 v2 v3 v4 : V3 ℝ) (t1 t2 t3 t4 : Nat) (vol : ℝ) (f g : Nat → ℝ) :
    Coo.form (tetBlockA (t1, t2, t3, t4) (Fem.tetOff v1 v2 v3 v4 vol).1 (Fem.tetOff v1 v2 v3 v4 vol).2.1
        (Fem.tetOff v1 v2 v3 v4 vol).2.2.1 (Fem.tetOff v1 v2 v3 v4 vol).2.2.2.1 (Fem.tetOff v1 v2 v3 v4 vol).2.2.2.2.1
        (Fem.tetOff v1 v2 v3 v4 vol).2.2.2.2.2) f g
      = dot (Spec.faceComb v1 v2 v3 v4 (f t1) (f t2) (f t3) (f t4))
          (Spec.faceComb v1 v2 v3 v4 (g t1) (g t2) (g t3) (g t4)) / (6 * vol) := by
  rw [tetBlockA_form]
  simp only [Fem.tetOff, Spec.faceComb]
  -- both sides are polynomials in the dot products of the three edges `a`, `b`, `c` at the first vertex, over `vol`
  rw [sub_eq_sub_sub_sub v1 v2 v3, ← V3.neg_sub v3 v1, sub_eq_sub_sub_sub v1 v2 v4, sub_eq_sub_sub_sub v1 v3 v4]
  generalize v2 - v1 = a
  generalize v3 - v1 = b
  generalize v4 - v1 = c
  simp only [dot_add_left, dot_add_right, dot_sub_left, dot_sub_right, dot_neg_left, dot_neg_right, dot_smul_left,
    dot_smul_right, dot_cross_cross, dot_comm b a, dot_comm c a, dot_comm c b]
  ring

/-- form of the stiffness block of one tetrahedron = volume × ∇f·∇g: `vol = |det|`, `∇f = F / det`, `|det|² = det²` -/
theorem local_form (vtx : Nat → V3 ℝ) (t1 t2 t3 t4 : Nat) (f g : Nat → ℝ)
    (hd : Spec.tetDet (vtx t1) (vtx t2) (vtx t3) (vtx t4) ≠ 0) :
    Coo.form (tetStiffBlock vtx (t1, t2, t3, t4)) f g
      = Spec.tetVolume (vtx t1) (vtx t2) (vtx t3) (vtx t4) *
          dot (Spec.gradTet (vtx t1) (vtx t2) (vtx t3) (vtx t4) (f t1) (f t2) (f t3) (f t4))
            (Spec.gradTet (vtx t1) (vtx t2) (vtx t3) (vtx t4) (g t1) (g t2) (g t3) (g t4)) := by
  rw [tetStiffBlock, iso_local_form, tetVol_eq, Spec.tetVolume, Spec.gradTet_eq, Spec.gradTet_eq, dot_smul_left,
    dot_smul_right]
  dsimp only
  generalize Spec.tetDet (vtx t1) (vtx t2) (vtx t3) (vtx t4) = D at hd ⊢
  generalize (dot (Spec.faceComb _ _ _ _ _ _ _ _) _ : ℝ) = X
  have hD : |D| ≠ 0 := abs_ne_zero.mpr hd
  field_simp
  rw [sq_abs]

end FemTet
end LapyVerif
