import Mathlib.Analysis.Real.Sqrt
import Mathlib.Analysis.SpecialFunctions.Exp
import Mathlib.Analysis.SpecialFunctions.Log.Basic
import LapyVerif.Model.Scalar
import LapyVerif.Model.V3
/-  The ℝ instance of the model's scalar classes: the instance the theorems are about. -/
namespace LapyVerif

noncomputable instance : HasSqrt ℝ := ⟨Real.sqrt⟩
noncomputable instance : HasAbs ℝ := ⟨fun x => |x|⟩
noncomputable instance : HasExp ℝ := ⟨Real.exp⟩
noncomputable instance : HasLog ℝ := ⟨Real.log⟩

@[simp] theorem sqrt_real (x : ℝ) : HasSqrt.sqrt x = Real.sqrt x := rfl
@[simp] theorem abs_real (x : ℝ) : HasAbs.abs x = |x| := rfl
@[simp] theorem exp_real (x : ℝ) : HasExp.exp x = Real.exp x := rfl

theorem epsK_real : (epsK : ℝ) = 1 / 4503599627370496 := by
  simp [epsK]
theorem epsK_pos : (0 : ℝ) < epsK := by
  rw [epsK_real]; norm_num
/-- what every complement of a guard `x < eps` of the code gives -/
theorem pos_of_not_lt_epsK {x : ℝ} (h : ¬ x < epsK) : 0 < x := lt_of_lt_of_le epsK_pos (not_lt.mp h)

/-- the vertex array of a single triangle, for the bridges and the worked instances -/
def vtx3 {K : Type} (a b c : V3 K) : Nat → V3 K := fun i =>
  match i with
  | 0 => a
  | 1 => b
  | _ => c

def vtx4 {K : Type} (a b c d : V3 K) : Nat → V3 K := fun i =>
  match i with
  | 0 => a
  | 1 => b
  | 2 => c
  | _ => d

theorem vtx3_0 {K : Type} (a b c : V3 K) : vtx3 a b c 0 = a := rfl
theorem vtx3_1 {K : Type} (a b c : V3 K) : vtx3 a b c 1 = b := rfl
theorem vtx3_2 {K : Type} (a b c : V3 K) : vtx3 a b c 2 = c := rfl
theorem vtx4_0 {K : Type} (a b c d : V3 K) : vtx4 a b c d 0 = a := rfl
theorem vtx4_1 {K : Type} (a b c d : V3 K) : vtx4 a b c d 1 = b := rfl
theorem vtx4_2 {K : Type} (a b c d : V3 K) : vtx4 a b c d 2 = c := rfl
theorem vtx4_3 {K : Type} (a b c d : V3 K) : vtx4 a b c d 3 = d := rfl

end LapyVerif
