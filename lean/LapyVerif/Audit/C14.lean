import LapyVerif.Props.C14
import LapyVerif.Props.C14b
#print axioms LapyVerif.Formats.words_intercalate
#print axioms LapyVerif.Formats.isNatTok_toString
#print axioms LapyVerif.Formats.toNat!_toString
#print axioms LapyVerif.Formats.isIntTok_toString
#print axioms LapyVerif.Formats.isFloatTok_toString
#print axioms LapyVerif.Formats.words_toString
#print axioms LapyVerif.Formats.takeNums_block
#print axioms LapyVerif.Formats.takeNums_block_short
#print axioms LapyVerif.Formats.readLine_tokenize
#print axioms LapyVerif.Formats.goodTok_of_mem_words
#print axioms LapyVerif.Formats.splitOn_char_eq_splitBy
#print axioms LapyVerif.Formats.isFloatTok_eq
#print axioms LapyVerif.Formats.trimAscii_eq
#print axioms LapyVerif.Formats.afterColon_eq
#print axioms LapyVerif.Props.C14.readVtk_points
#print axioms LapyVerif.Props.C14.vtkBody_elemRows
#print axioms LapyVerif.Props.C14.vtk_roundtrip
#print axioms LapyVerif.Props.C14.vtk_wrong_kind_gen
#print axioms LapyVerif.Props.C14.vtk_wrong_kind
#print axioms LapyVerif.Props.C14.vtk_truncation
#print axioms LapyVerif.Props.C14.off_spec
#print axioms LapyVerif.Props.C14.gmsh_spec
#print axioms LapyVerif.Props.C14.strips_one
#print axioms LapyVerif.Props.C14.strips_spec
#print axioms LapyVerif.Props.C14.vfunc_roundtrip
#print axioms LapyVerif.Props.C14.readEv_succ
#print axioms LapyVerif.Props.C14.readEv_head
#print axioms LapyVerif.Props.C14.evHeads_table
#print axioms LapyVerif.Props.C14.reads_evals
#print axioms LapyVerif.Props.C14.words_cleanS_lines
#print axioms LapyVerif.Props.C14.braceBlock_lines
#print axioms LapyVerif.Props.C14.reads_evecs
#print axioms LapyVerif.Props.C14.reads_opt
#print axioms LapyVerif.Props.C14.reads_writeEv
#print axioms LapyVerif.Props.C14.ev_roundtrip
#print axioms LapyVerif.Props.C14.ev_roundtrip_canon
#print axioms LapyVerif.Props.C14.exMesh_good
#print axioms LapyVerif.Props.C14.exEv_canon
#print axioms LapyVerif.Props.C14b.be32_roundtrip
#print axioms LapyVerif.Props.C14b.readBlock_words
#print axioms LapyVerif.Props.C14b.readFs_mesh
#print axioms LapyVerif.Props.C14b.fs_roundtrip
#print axioms LapyVerif.Props.C14b.fs_roundtrip_head210
#print axioms LapyVerif.Props.C14b.fs_bad_magic
#print axioms LapyVerif.Props.C14b.readFs_short
#print axioms LapyVerif.Props.C14b.readBlock_short
#print axioms LapyVerif.Props.C14b.fs_truncated_mesh
#print axioms LapyVerif.Props.C14b.fs_truncated_footer
#print axioms LapyVerif.Props.C14b.readVolInfo_cut_code
#print axioms LapyVerif.Props.C14b.fs_truncated_head
#print axioms LapyVerif.Props.C14b.exSurf_good
#print axioms LapyVerif.FsSurf.readVolInfo_writeInfo
#print axioms LapyVerif.FsSurf.readInfoBody_lines
#print axioms LapyVerif.FsSurf.parseKV_line
#print axioms LapyVerif.FsSurf.fromfile_words
#print axioms LapyVerif.Props.C14b.readBody_stamp
#print axioms LapyVerif.Props.C14b.length_writeMesh
#print axioms LapyVerif.FsSurf.fromfile_one
#print axioms LapyVerif.Formats.words_three
#print axioms LapyVerif.Formats.trimAscii_wrap
