import LapyVerif.Props.C11
import LapyVerif.Bridge.RefineTri
/- axiom audit of C11 -/
#print axioms LapyVerif.Props.C11.refine_counts
#print axioms LapyVerif.Props.C11.edgeList_spec
#print axioms LapyVerif.Props.C11.edgeList_lt
#print axioms LapyVerif.Props.C11.edgeList_length
#print axioms LapyVerif.Props.C11.refine_keeps_old
#print axioms LapyVerif.Props.C11.refine_midpoints
#print axioms LapyVerif.Props.C11.edgeVertex_spec
#print axioms LapyVerif.Props.C11.edgeVertex_edgeList
#print axioms LapyVerif.Props.C11.children_vertices
#print axioms LapyVerif.Props.C11.child_cross
#print axioms LapyVerif.Props.C11.child_volume
#print axioms LapyVerif.Props.C11.child_centroid
#print axioms LapyVerif.Props.C11.child_heron
#print axioms LapyVerif.Props.C11.refine_map_corners
#print axioms LapyVerif.Props.C11.refine_sum_corners
#print axioms LapyVerif.Props.C11.child_triArea
#print axioms LapyVerif.Props.C11.refine_volumeSum
#print axioms LapyVerif.Props.C11.refine_crossList
#print axioms LapyVerif.Props.C11.refine_crossArea
#print axioms LapyVerif.Props.C11.refine_area
#print axioms LapyVerif.Props.C11.refine_centroid
#print axioms LapyVerif.Props.C11.refine_volume_partial
#print axioms LapyVerif.Props.C11.refine_zero
#print axioms LapyVerif.Props.C11.refine_succ
#print axioms LapyVerif.Props.C11.refine_add
#print axioms LapyVerif.Props.C11.refine_iter
#print axioms LapyVerif.Props.C11.refine_tris_length_iter
#print axioms LapyVerif.Props.C11.newVertex_spec
#print axioms LapyVerif.Props.C11.refine_halfEdges
#print axioms LapyVerif.Props.C11.refine_halfEdge_count
#print axioms LapyVerif.Props.C11.refine_inner_once
#print axioms LapyVerif.Refine.count_decomp
#print axioms LapyVerif.Refine.forall_count_iff
#print axioms LapyVerif.Props.C11.refine_isClosed
#print axioms LapyVerif.Props.C11.refine_isManifold_partial
#print axioms LapyVerif.Props.C11.refine_isOriented_partial
#print axioms LapyVerif.Props.C11.refine_VET_partial
#print axioms LapyVerif.Props.C11.refine_euler_partial
#print axioms LapyVerif.Props.C11.refine_inherits
#print axioms LapyVerif.Props.C11.refine_iter_topology_partial
#print axioms LapyVerif.Props.C11.refine_iter_measures
#print axioms LapyVerif.Props.C11.RmFreeProps.run_del
#print axioms LapyVerif.Props.C11.RmFreeProps.run_keep
#print axioms LapyVerif.Props.C11.RmFreeProps.run_lookup
#print axioms LapyVerif.Props.C11.RmFreeProps.run_unchanged
#print axioms LapyVerif.Props.C11.RmFreeProps.run_spec
#print axioms LapyVerif.Props.C11.RmFreeProps.rm_free_tri
#print axioms LapyVerif.Props.C11.RmFreeProps.rm_free_tri_unchanged
#print axioms LapyVerif.Props.C11.RmFreeProps.rm_free_tri_changed
#print axioms LapyVerif.Props.C11.RmFreeProps.rm_free_tet
#print axioms LapyVerif.Props.C11.RmFreeProps.rm_free_tet_unchanged
#print axioms LapyVerif.Props.C11.RmFreeProps.rm_free_tet_changed
#print axioms LapyVerif.Props.C11.ts2_refined
#print axioms LapyVerif.Props.C11.pillow_refined
#print axioms LapyVerif.Bridge.refine1_eq_body
#print axioms LapyVerif.Bridge.refine_trias
#print axioms LapyVerif.Bridge.refine_verts
#print axioms LapyVerif.Bridge.census_RefineTri_pcCount
#print axioms LapyVerif.Props.C11.RmFreeProps.rows_spec
