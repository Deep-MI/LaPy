import LapyVerif.Model.History
import LapyVerif.Lemmas.RealInst
/-
  C20 — mesh objects stay internally consistent across any history of operations.

  `TriInv s` says the cached adjacency equals what the constructor computes from the current triangles.  The step
  function is parametric in the table `reb` (does the method re-run the constructor?) that `Bridge/C20.lean`
  instantiates with the table extracted from the source.  The theorems hold for every scalar type, every state and
  every operation list — no length bound.
  The other clauses of C20: `rm_free_vertices_` is `RmFreeProps` in `Props/C11.lean`, purity is `purity_table` in
  `Bridge/C20.lean`, `smooth_` is `smooth_inplace` in `Props/C15.lean`; the constructors (`History.ctorTri`, `ctorTet`)
  are run by the driver only.
-/
namespace LapyVerif.Props.C20
open History

/-- what the proof needs from the source: every method whose model effect can change the triangles re-runs the constructor -/
def TriTableOk (reb : String → Bool) : Prop :=
  reb "orient_" = true ∧ reb "refine_" = true ∧ reb "rm_free_vertices_" = true

theorem inv_fresh {K : Type} (v : List (V3 K)) (t : List Tri) : TriInv (TriState.fresh v t) := ⟨rfl, rfl⟩

variable {K : Type} [Zero K] [Add K] [Sub K] [Mul K] [Div K] [Neg K] [NatCast K] [HasSqrt K]
variable [LT K] [DecidableRel (α := K) (· < ·)]

theorem effect_keeps_t (reb : String → Bool) (hreb : TriTableOk reb) (s : TriState K) (op : TriOp K)
    (v' : List (V3 K)) (t' : List Tri) (h : triEffect s op = some (v', t')) (hr : reb op.name ≠ true) : t' = s.t := by
  -- the vertex-only operations return `s.t` itself
  have key : ∀ {v : List (V3 K)}, some (v, s.t) = some (v', t') → t' = s.t :=
    fun e => (Prod.mk.inj (Option.some.inj e)).2.symm
  cases op with
  | orient => exact absurd hreb.1 hr
  | refine it => exact absurd hreb.2.1 hr
  | rmFree => exact absurd hreb.2.2 hr
  | normalize => exact key h
  | smooth n =>
    simp only [triEffect] at h
    split at h
    · cases h
    · exact key h
  | offset d =>
    simp only [triEffect] at h
    split at h
    · exact key h
    · cases h

/-- **one step preserves the invariant** -/
theorem inv_step (reb : String → Bool) (hreb : TriTableOk reb) (s : TriState K) (hs : TriInv s) (op : TriOp K) :
    TriInv (triStep reb s op) := by
  unfold triStep
  cases he : triEffect s op with
  | none => exact hs
  | some p =>
    obtain ⟨v', t'⟩ := p
    by_cases hr : reb op.name = true
    · simp only [hr, if_true]; exact inv_fresh v' t'
    · simp only [hr, Bool.false_eq_true, if_false]
      cases effect_keeps_t reb hreb s op v' t' he hr
      exact hs

/-- **after any sequence of operations the cached adjacency is fresh** -/
theorem inv_history (reb : String → Bool) (hreb : TriTableOk reb) (s : TriState K) (hs : TriInv s) (ops : List (TriOp K)) :
    TriInv (triRun reb s ops) :=
  List.foldlRecOn ops (triStep reb) hs fun s hs op _ => inv_step reb hreb s hs op

theorem inv_from_ctor (reb : String → Bool) (hreb : TriTableOk reb) (v : List (V3 K)) (t : List Tri) (ops : List (TriOp K)) :
    TriInv (triRun reb (TriState.fresh v t) ops) :=
  inv_history reb hreb _ (inv_fresh v t) ops

/-- **the modelled queries (`is_closed`, `is_manifold`, `is_oriented`, `euler`) answer as on a freshly constructed mesh** -/
theorem query_fresh (s : TriState K) (hs : TriInv s) :
    qClosed s = Topo.isClosed s.t ∧ qManifold s = Topo.isManifold s.t ∧ qOriented s = Topo.isOriented s.t ∧
    qEuler s = Topo.euler s.t := by
  obtain ⟨h1, h2⟩ := hs
  refine ⟨?_, ?_, ?_, ?_⟩
  · simp only [qClosed, h1, Topo.isClosed, Topo.symData, Topo.adjSym]
  · simp only [qManifold, h1, Topo.isManifold, Topo.symData, Topo.adjSym]; rfl
  · simp only [qOriented, h2, Topo.isOriented, Topo.dirData, Topo.adjDir]
  · simp only [qEuler, h1, Topo.euler, Topo.adjSym]

/-- and the state after a history is indistinguishable from the freshly constructed one (`inv_from_ctor` with `TriInv`
    written out in terms of `fresh`) -/
theorem state_fresh (reb : String → Bool) (hreb : TriTableOk reb) (v : List (V3 K)) (t : List Tri) (ops : List (TriOp K)) :
    let s := triRun reb (TriState.fresh v t) ops
    s.symK = (TriState.fresh s.v s.t).symK ∧ s.dirK = (TriState.fresh s.v s.t).dirK :=
  inv_from_ctor reb hreb v t ops

omit [Div K] [Neg K] [NatCast K] [HasSqrt K]

def TetTableOk (reb : String → Bool) : Prop := reb "orient_" = true ∧ reb "rm_free_vertices_" = true

theorem tet_inv_step (reb : String → Bool) (hreb : TetTableOk reb) (s : TetState K) (hs : TetInv s) (op : TetOp) :
    TetInv (tetStep reb s op) := by
  unfold tetStep
  cases he : tetEffect s op with
  | none => exact hs
  | some p =>
    obtain ⟨v', t'⟩ := p
    have hr : reb op.name = true := by cases op <;> simp [TetOp.name, hreb.1, hreb.2]
    simp only [hr, if_true]
    rfl

theorem tet_inv_history (reb : String → Bool) (hreb : TetTableOk reb) (s : TetState K) (hs : TetInv s) (ops : List TetOp) :
    TetInv (tetRun reb s ops) :=
  List.foldlRecOn ops (tetStep reb) hs fun s hs op _ => tet_inv_step reb hreb s hs op

/-- the invariant genuinely depends on the table: with a `rm_free_vertices_` that does not re-run the constructor
    (finding F6), a one-step history breaks it -/
example : ¬ TetInv (tetStep (K := ℝ) (fun n => n == "orient_")
    (TetState.fresh [⟨9, 9, 9⟩, ⟨0, 0, 0⟩, ⟨1, 0, 0⟩, ⟨0, 1, 0⟩, ⟨0, 0, 1⟩] [(1, 2, 3, 4)]) .rmFree) := by
  unfold TetInv
  decide

/-- a concrete non-trivial history satisfies the hypotheses -/
example : TriInv (triRun (K := ℝ) (fun n => n == "orient_" || n == "refine_" || n == "rm_free_vertices_")
    (TriState.fresh [⟨0, 0, 0⟩, ⟨1, 0, 0⟩, ⟨0, 1, 0⟩, ⟨1, 1, 0⟩] [(0, 1, 2), (1, 2, 3)]) [.refine 1, .normalize, .rmFree]) :=
  inv_from_ctor _ ⟨by decide, by decide, by decide⟩ _ _ _

end LapyVerif.Props.C20
