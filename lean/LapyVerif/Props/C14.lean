import LapyVerif.Lemmas.FormatLemmas
/-
  C14 — the text file formats: what the writers produce is read back unchanged, foreign files load to the mesh they
  describe, and truncated / wrong-kind files are rejected.
  Model: `Model/Formats.lean`.  Numbers are opaque decimal text tokens, constrained by `GoodCoord` / `VfTok`; that Python
  reads back what it prints (`float(str(x)) == x`) is checked by the harness, not here.

  Several definitions below are the model's own text under a name, cut at a stage boundary or taken out of an expression
  (`vtkFinish`, `vtkBody`, `stripTris`, `strKeys`, `floatKeys`, `lstrip`, `evStep`, `kvLine`, `tLine`, `cleanS`, `bodyOf`,
  `optL`, `totalPart`, `evecPart`): each says so and names the lemma that ties it to the model (a closing `rfl`, except
  `evStep`: the case split `readEv_succ`); whoever changes the model finds the copy through that lemma.
-/
namespace LapyVerif.Props.C14
open Formats

def GoodCoord (s : String) : Prop := isFloatTok s = true ∧ GoodTok s
/-- at least one element: `read_vtk` divides by the number of elements, so a mesh without elements is written but not read
    back -/
def GoodMesh (k : Nat) (coords : List (List String)) (elems : List (List Nat)) : Prop :=
  (∀ row ∈ coords, row.length = 3 ∧ ∀ s ∈ row, GoodCoord s) ∧ (∀ e ∈ elems, e.length = k) ∧ elems ≠ []

def elemRows (k : Nat) (elems : List (List Nat)) : List (List String) :=
  elems.map fun e => toString k :: e.map toString

theorem writeVtk_eq (k : Nat) (coords : List (List String)) (elems : List (List Nat)) :
    writeVtk k coords elems =
      "# vtk DataFile Version 1.0" :: "vtk output" :: "ASCII" :: "DATASET POLYDATA" ::
        ("POINTS " ++ toString coords.length ++ " float") ::
        ((coords.map fun r => " ".intercalate r) ++
          ("POLYGONS " ++ toString elems.length ++ " " ++ toString ((k + 1) * elems.length)) ::
          ((elemRows k elems).map fun r => " ".intercalate r)) := by
  unfold writeVtk elemRows
  rw [List.map_map]
  simp only [List.cons_append, List.nil_append, List.append_assoc]
  rfl

theorem skipToAscii_header (r : List String) :
    skipToAscii ("# vtk DataFile Version 1.0" :: "vtk output" :: "ASCII" :: r) = some r := by
  simp [skipToAscii, skipToAscii.go]

/-- the last part of `readVtk` (the model's code; tied by the closing `rfl` of `readVtk_header` through `vtkBody`) -/
def vtkFinish (k : Nat) (coords : List String) (tnum : Nat) (nums : List String) : Except Fail RawMesh :=
  let rows := chunk (k + 1) tnum nums
  if (rows.getLast?.bind (·.head?)) != some (toString k) then .error .format else
  if nums.any (fun s => s.startsWith "-") then .error .data else
  .ok { coords := coords, elems := rows.map fun r => (r.drop 1).map (·.toNat!) }

/-- the part of `readVtk` after the vertex block has been read (the model's code; tied by `readVtk_header`) -/
def vtkBody (k : Nat) (coords toks : List String) : Except Fail RawMesh :=
  let (hd, toks) := readLine toks
  match hd with
  | kw :: a :: b :: _ =>
    if kw == "POLYGONS" || kw == "CELLS" then
      if !(isNatTok a && isNatTok b) then .error .data else
      let tnum := a.toNat!; let ttnum := b.toNat!
      if tnum == 0 then .error .data else
      if ttnum != (k + 1) * tnum then .error .format else
      match takeNums isIntTok ttnum [] toks with
      | .error e => .error e
      | .ok (nums, _) => vtkFinish k coords tnum nums
    else if kw == "TRIANGLE_STRIPS" && k == 3 then
      if !isNatTok a then .error .data else
      match readVtk.strips a.toNat! toks [] with
      | .error e => .error e
      | .ok tr => .ok { coords := coords, elems := tr }
    else .error .format
  | _ => .error .data

theorem words_points (n : Nat) : words ("POINTS " ++ toString n ++ " float") = ["POINTS", toString n, "float"] :=
  words_three (by decide) (goodTok_toString n) (by decide) (by simp [String.append_assoc])

theorem readVtk_header (k n : Nat) (tail : List String) :
    readVtk k ("# vtk DataFile Version 1.0" :: "vtk output" :: "ASCII" :: "DATASET POLYDATA" ::
        ("POINTS " ++ toString n ++ " float") :: tail) =
      match takeNums isFloatTok (3 * n) [] (tokenize tail) with
      | .error e => .error e
      | .ok (coords, toks) => vtkBody k coords toks := by
  unfold readVtk
  rw [skipToAscii_header]
  simp only [startsWith_self, Bool.true_or, bne_self_eq_false, Bool.false_and, Bool.or_self, words_points, isNatTok_toString,
    toNat!_toString, Bool.not_true, Bool.false_eq_true, if_false]
  rfl

theorem vtkBody_nil (k : Nat) (coords : List String) : vtkBody k coords [] = .error .data := rfl

theorem readVtk_short (k : Nat) (lines : List String) (h : ∀ r, skipToAscii lines = some r → r.length < 2) :
    ∃ e, readVtk k lines = .error e := by
  unfold readVtk
  cases hs : skipToAscii lines with
  | none => exact ⟨_, rfl⟩
  | some r =>
    match r, h r hs with
    | [], _ => exact ⟨_, rfl⟩
    | [ds], _ =>
      dsimp only
      split <;> exact ⟨_, rfl⟩

theorem words_polygons (m t : Nat) :
    words ("POLYGONS " ++ toString m ++ " " ++ toString t) = ["POLYGONS", toString m, toString t] :=
  words_three (by decide) (goodTok_toString m) (goodTok_toString t) (by simp [String.append_assoc])

theorem vtkBody_polygons (k m t : Nat) (coords ls : List String) (hm : m ≠ 0) :
    vtkBody k coords (dropNL (tokenize (("POLYGONS " ++ toString m ++ " " ++ toString t) :: ls))) =
      if t ≠ (k + 1) * m then .error .format else
      match takeNums isIntTok t [] (tokenize ls) with
      | .error e => .error e
      | .ok (nums, _) => vtkFinish k coords m nums := by
  have h1 : (("POLYGONS" : String) == "POLYGONS" || ("POLYGONS" : String) == "CELLS") = true := by decide
  have hm' : (m == 0) = false := by simpa using hm
  rw [dropNL_tokenize _ _ (by rw [words_polygons]; simp)]
  unfold vtkBody
  rw [readLine_tokenize, words_polygons]
  simp only [h1, isNatTok_toString, toNat!_toString, Bool.and_self, Bool.not_true, Bool.false_eq_true, if_false, if_true,
    hm']
  by_cases ht : t = (k + 1) * m
  · simp [ht]
  · simp [ht]

theorem length_elemRows (k : Nat) (elems : List (List Nat)) : (elemRows k elems).length = elems.length :=
  List.length_map _

theorem elemRows_ok {k : Nat} {elems : List (List Nat)} (h : ∀ e ∈ elems, e.length = k) :
    RowsOk isIntTok (k + 1) (elemRows k elems) := by
  intro r hr
  obtain ⟨e, he, rfl⟩ := List.mem_map.mp hr
  have hd : ∀ t ∈ (k :: e).map toString, AllDigits t := fun t ht => allDigits_of_mem_map_toString ht
  exact ⟨by simp [h e he], fun t ht => ⟨(hd t ht).goodTok, (hd t ht).isIntTok⟩⟩

theorem elemRows_decode (k : Nat) (elems : List (List Nat)) :
    (elemRows k elems).map (fun r => (r.drop 1).map (·.toNat!)) = elems := by
  unfold elemRows
  rw [List.map_map]
  exact map_eq_self fun e _ => map_toNat!_toString e

theorem rowsOk_coords {coords : List (List String)} (hc : ∀ row ∈ coords, row.length = 3 ∧ ∀ s ∈ row, GoodCoord s) :
    RowsOk isFloatTok 3 coords :=
  fun r hr => ⟨(hc r hr).1, fun t ht => ⟨((hc r hr).2 t ht).2, ((hc r hr).2 t ht).1⟩⟩

section mesh
variable {k : Nat} {coords : List (List String)} {elems : List (List Nat)}

theorem GoodMesh.coords_ok (h : GoodMesh k coords elems) : RowsOk isFloatTok 3 coords := rowsOk_coords h.1

theorem readVtk_points (h : RowsOk isFloatTok 3 coords) (k : Nat) (tail : List String) :
    readVtk k ("# vtk DataFile Version 1.0" :: "vtk output" :: "ASCII" :: "DATASET POLYDATA" ::
        ("POINTS " ++ toString coords.length ++ " float") :: ((coords.map fun r => " ".intercalate r) ++ tail)) =
      vtkBody k coords.flatten (dropNL (tokenize tail)) := by
  rw [readVtk_header, takeNums_block h rfl]

theorem vtkFinish_elemRows (he : ∀ e ∈ elems, e.length = k) (hne : elems ≠ []) (cs : List String) :
    vtkFinish k cs elems.length (elemRows k elems).flatten = .ok { coords := cs, elems := elems } := by
  have hchunk := (elemRows_ok he).chunk (length_elemRows k elems)
  have hlast : ((elemRows k elems).getLast?.bind (·.head?)) = some (toString k) := by
    obtain ⟨init, e, he⟩ : ∃ init e, elems = init ++ [e] :=
      ⟨elems.dropLast, elems.getLast hne, (List.dropLast_concat_getLast hne).symm⟩
    rw [he]; simp [elemRows]
  have hneg : (elemRows k elems).flatten.any (fun s => s.startsWith "-") = false := by
    rw [List.any_eq_false]
    intro s hs
    obtain ⟨row, hr, hs⟩ := List.mem_flatten.mp hs
    obtain ⟨e, _, rfl⟩ := List.mem_map.mp hr
    rcases List.mem_cons.mp hs with rfl | hs
    · rw [not_startsWith_minus_toString]; decide
    · obtain ⟨n, _, rfl⟩ := List.mem_map.mp hs
      rw [not_startsWith_minus_toString]; decide
  unfold vtkFinish
  simp only [hchunk, hlast, hneg, elemRows_decode, bne_self_eq_false, Bool.false_eq_true, if_false]

/-- the body on the writer's element part, for a reader of any kind `k'`: the announced size `(k+1)·m` fits only `k' = k` -/
theorem vtkBody_elemRows (he : ∀ e ∈ elems, e.length = k) (hne : elems ≠ []) (k' : Nat) (cs : List String) :
    vtkBody k' cs (dropNL (tokenize (("POLYGONS " ++ toString elems.length ++ " " ++ toString ((k + 1) * elems.length)) ::
      (elemRows k elems).map fun r => " ".intercalate r))) =
      if k' = k then .ok { coords := cs, elems := elems } else .error .format := by
  have hM : elems.length ≠ 0 := by simpa using hne
  rw [vtkBody_polygons _ _ _ _ _ hM]
  by_cases hk : k' = k
  · subst hk
    have := takeNums_block (elemRows_ok he) (length_elemRows _ elems) []
    rw [List.append_nil] at this
    rw [if_neg (by simp), if_pos rfl, this]
    exact vtkFinish_elemRows he hne cs
  · rw [if_pos, if_neg hk]
    intro heq
    have : k + 1 = k' + 1 := Nat.eq_of_mul_eq_mul_right (Nat.pos_of_ne_zero hM) heq
    omega

/-- **`read_vtk ∘ write_vtk = id`** on the connectivity (values, order, winding) and the coordinate tokens -/
theorem vtk_roundtrip (h : GoodMesh k coords elems) :
    readVtk k (writeVtk k coords elems) = .ok { coords := coords.flatten, elems := elems } := by
  rw [writeVtk_eq, readVtk_points h.coords_ok, vtkBody_elemRows h.2.1 h.2.2, if_pos rfl]

/-- **a file of the other kind is rejected** (`ttnum ≠ (k'+1)·tnum`): e.g. `k = 3`, `k' = 4` or the other way round -/
theorem vtk_wrong_kind_gen (k' : Nat) (hk : k' ≠ k) (h : GoodMesh k coords elems) :
    readVtk k' (writeVtk k coords elems) = .error .format := by
  rw [writeVtk_eq, readVtk_points h.coords_ok, vtkBody_elemRows h.2.1 h.2.2, if_neg hk]

/-- **every truncated file is rejected**: cutting the written file after `m` lines, anywhere, gives an error — never a
    different mesh (the cut falls in the header, in the vertex block or in the element block; which error code comes
    is not part of the statement) -/
theorem vtk_truncation (h : GoodMesh k coords elems) (m : Nat) (hm : m < (writeVtk k coords elems).length) :
    ∃ e, readVtk k ((writeVtk k coords elems).take m) = .error e := by
  rw [writeVtk_eq] at hm ⊢
  simp only [List.length_cons, List.length_append, List.length_map, length_elemRows] at hm
  by_cases h5 : m < 5
  · -- the cut is inside the header: no `ASCII` line, or fewer than two lines after it
    refine readVtk_short k _ fun r hr => ?_
    by_cases h3 : m < 3
    · have hcases : m = 0 ∨ m = 1 ∨ m = 2 := by omega
      rcases hcases with rfl | rfl | rfl
      · simp [skipToAscii, skipToAscii.go] at hr
      · simp [skipToAscii, skipToAscii.go] at hr
      · simp [skipToAscii, skipToAscii.go] at hr
    · obtain ⟨j, rfl⟩ : ∃ j, m = j + 3 := ⟨m - 3, by omega⟩
      simp only [List.take_succ_cons] at hr
      rw [skipToAscii_header, Option.some.injEq] at hr
      rw [← hr, List.length_take]
      omega
  · obtain ⟨j, rfl⟩ : ∃ j, m = j + 5 := ⟨m - 5, by omega⟩
    simp only [List.take_succ_cons]
    by_cases hj : j ≤ coords.length
    · -- the cut is inside (or right after) the vertex block: too few coordinates, or no element line
      rw [List.take_append_of_le_length (by simpa using hj), ← List.map_take, readVtk_header]
      have hl : (coords.take j).length = j := by rw [List.length_take, Nat.min_eq_left hj]
      by_cases hjn : j = coords.length
      · have := takeNums_block (h.coords_ok.take j) hl []
        rw [List.append_nil] at this
        rw [← hjn, this]
        exact ⟨_, rfl⟩
      · rw [takeNums_block_short (h.coords_ok.take j) (by rw [hl]; omega)]
        exact ⟨_, rfl⟩
    · -- the cut is inside the element block: fewer indices than announced
      obtain ⟨j', rfl⟩ : ∃ j', j = coords.length + 1 + j' := ⟨j - coords.length - 1, by omega⟩
      rw [List.take_append, List.take_of_length_le (by simp; omega)]
      simp only [List.length_map, show coords.length + 1 + j' - coords.length = j' + 1 by omega, List.take_succ_cons]
      rw [← List.map_take, readVtk_points h.coords_ok, vtkBody_polygons _ _ _ _ _ (by omega), if_neg (by simp),
        takeNums_block_short ((elemRows_ok h.2.1).take j') (by
          rw [List.length_take, length_elemRows, Nat.min_eq_left (by omega)]
          exact Nat.mul_lt_mul_of_pos_left (by omega) (by omega))]
      exact ⟨_, rfl⟩
end mesh

theorem vtk_wrong_kind {coords : List (List String)} {elems : List (List Nat)} :
    (GoodMesh 3 coords elems → readVtk 4 (writeVtk 3 coords elems) = .error .format) ∧
    (GoodMesh 4 coords elems → readVtk 3 (writeVtk 4 coords elems) = .error .format) :=
  ⟨vtk_wrong_kind_gen 4 (by decide), vtk_wrong_kind_gen 3 (by decide)⟩

theorem words_offCounts (n m : Nat) : words (toString n ++ " " ++ toString m ++ " 0") = [toString n, toString m, "0"] :=
  words_three (goodTok_toString n) (goodTok_toString m) (by decide) (by simp [String.append_assoc])

/-- **a foreign OFF file loads to the mesh it describes** (zero-based indices unchanged, order and winding kept) -/
theorem off_spec {coords : List (List String)} {elems : List (List Nat)} (h : GoodMesh 3 coords elems) :
    readOff (["OFF", s!"{coords.length} {elems.length} 0"] ++ coords.map (" ".intercalate) ++
        elems.map (fun e => " ".intercalate ("3" :: e.map toString))) =
      .ok { coords := coords.flatten, elems := elems } := by
  have hlines : (["OFF", s!"{coords.length} {elems.length} 0"] ++ coords.map (" ".intercalate) ++
        elems.map (fun e => " ".intercalate ("3" :: e.map toString))) =
      "OFF" :: (toString coords.length ++ " " ++ toString elems.length ++ " 0") ::
        ((coords.map fun r => " ".intercalate r) ++ ((elemRows 3 elems).map fun r => " ".intercalate r)) := by
    unfold elemRows
    rw [List.map_map]
    simp only [List.cons_append, List.nil_append]
    rfl
  have hE := elemRows_ok h.2.1
  have hnums := takeNums_block hE (length_elemRows 3 elems) []
  rw [List.append_nil] at hnums
  have hchunk := hE.chunk (length_elemRows 3 elems)
  have hmax : ((elemRows 3 elems).map fun r => (r.headD "0").toNat!).foldl max 0 = 3 := by
    apply foldl_max_const
    · intro x hx
      obtain ⟨r, hr, rfl⟩ := List.mem_map.mp hx
      obtain ⟨e, _, rfl⟩ := List.mem_map.mp hr
      exact toNat!_toString 3
    · simpa [elemRows] using h.2.2
  rw [hlines]
  unfold readOff
  simp only [List.dropWhile_cons, show ("OFF".startsWith "#") = false by simp, startsWith_self,
    Bool.false_eq_true, if_false, Bool.not_true, words_offCounts, isNatTok_toString, toNat!_toString, Bool.and_self,
    takeNums_block h.coords_ok rfl, takeNums_dropNL, hnums, hchunk, hmax, elemRows_decode]
  simp [show elems.length ≠ 0 by simpa using h.2.2]

/-- the triangles of one strip `i0 i1 i2 …`: `(i_j, i_{j+1}, i_{j+2})`, the first two swapped for odd `j` (the model's
    expression in `readVtk.strips`; tied by the closing `rfl` of `strips_one`) -/
def stripTris (ix : List Nat) : List (List Nat) :=
  (List.range (ix.length - 2)).map fun j =>
    if j % 2 == 0 then [ix.getD j 0, ix.getD (j + 1) 0, ix.getD (j + 2) 0]
    else [ix.getD (j + 1) 0, ix.getD j 0, ix.getD (j + 2) 0]

theorem strips_one (ix : List Nat) (ls : List String) (acc : List (List Nat)) (m : Nat) :
    readVtk.strips (m + 1) (tokenize (" ".intercalate ((ix.length :: ix).map toString) :: ls)) acc =
      readVtk.strips m (tokenize ls) (acc ++ stripTris ix) := by
  have hall : (ix.map toString).all isNatTok = true :=
    List.all_eq_true.mpr fun t ht => (isNatTok_iff t).2 (allDigits_of_mem_map_toString ht)
  rw [readVtk.strips, readLine_tokenize, words_intercalate _ fun t ht => (allDigits_of_mem_map_toString ht).goodTok]
  simp only [List.map_cons, isNatTok_toString, toNat!_toString, List.length_map, hall, map_toNat!_toString, Bool.not_true,
    bne_self_eq_false, Bool.or_self, Bool.false_eq_true, if_false]
  rfl

/-- **TRIANGLE_STRIPS with a single strip** are unrolled with alternating winding.  A file with several strips is not
    covered by this statement (`strips_one` is general in the number of strips that follow). -/
theorem strips_spec {coords : List (List String)} (hc : ∀ row ∈ coords, row.length = 3 ∧ ∀ s ∈ row, GoodCoord s)
    (ix : List Nat) :
    readVtk 3 (["# vtk DataFile Version 1.0", "vtk output", "ASCII", "DATASET POLYDATA",
        s!"POINTS {coords.length} float"] ++ coords.map (" ".intercalate) ++
        [s!"TRIANGLE_STRIPS 1 {ix.length + 1}", " ".intercalate (toString ix.length :: ix.map toString)]) =
      .ok { coords := coords.flatten, elems := stripTris ix } := by
  have hlines : (["# vtk DataFile Version 1.0", "vtk output", "ASCII", "DATASET POLYDATA",
        s!"POINTS {coords.length} float"] ++ coords.map (" ".intercalate) ++
        [s!"TRIANGLE_STRIPS 1 {ix.length + 1}", " ".intercalate (toString ix.length :: ix.map toString)]) =
      "# vtk DataFile Version 1.0" :: "vtk output" :: "ASCII" :: "DATASET POLYDATA" ::
        ("POINTS " ++ toString coords.length ++ " float") ::
        ((coords.map fun r => " ".intercalate r) ++
          [("TRIANGLE_STRIPS 1 " ++ toString (ix.length + 1)),
            " ".intercalate ((ix.length :: ix).map toString)]) := by
    simp only [List.cons_append, List.nil_append]
    rfl
  have hw : words ("TRIANGLE_STRIPS 1 " ++ toString (ix.length + 1)) =
      ["TRIANGLE_STRIPS", "1", toString (ix.length + 1)] :=
    words_three (by decide) (by decide) (goodTok_toString _) (by simp)
  have h1 : (("TRIANGLE_STRIPS" : String) == "POLYGONS" || ("TRIANGLE_STRIPS" : String) == "CELLS") = false := by decide
  have h2 : (("TRIANGLE_STRIPS" : String) == "TRIANGLE_STRIPS" && (3 : Nat) == 3) = true := by decide
  rw [hlines, readVtk_points (rowsOk_coords hc), dropNL_tokenize _ _ (by rw [hw]; simp)]
  unfold vtkBody
  rw [readLine_tokenize, hw]
  have h3 : isNatTok "1" = true := isNatTok_toString 1
  have h4 : ("1" : String).toNat! = 1 := toNat!_toString 1
  simp only [h1, h2, h3, h4, Bool.false_eq_true, if_false, if_true, Bool.not_true]
  rw [strips_one ix [] [] 0]
  rfl

def gmshNodeRows (coords : List (List String)) : List (List String) :=
  (coords.zipIdx 1).map fun p => toString p.2 :: p.1

def gmshElemRows (elems : List (List Nat)) : List (List String) :=
  (elems.zipIdx 1).map fun p => [toString p.2, "4", "2", "0", "1"] ++ p.1.map fun a => toString (a + 1)

/-- a Gmsh 2.2 ASCII file: numbered node lines `i x y z`, numbered tetrahedron lines `i 4 2 0 1 a+1 b+1 c+1 d+1`
    (node numbers 1-based) -/
def gmshFile (coords : List (List String)) (elems : List (List Nat)) : List String :=
  ["$MeshFormat", "2.2 0 8", "$EndMeshFormat", "$Nodes", toString coords.length] ++
  (gmshNodeRows coords).map (" ".intercalate) ++ ["$EndNodes", "$Elements", toString elems.length] ++
  (gmshElemRows elems).map (" ".intercalate) ++ ["$EndElements"]

section gmsh
variable {coords : List (List String)} {elems : List (List Nat)}

theorem gmshNodeRows_ok (h : RowsOk isFloatTok 3 coords) : RowsOk isFloatTok 4 (gmshNodeRows coords) := by
  intro r hr
  obtain ⟨p, hp, rfl⟩ := List.mem_map.mp hr
  have hrow := h p.1 (List.fst_mem_of_mem_zipIdx hp)
  refine ⟨by simp [hrow.1], fun t ht => ?_⟩
  rcases List.mem_cons.mp ht with rfl | ht
  · exact ⟨goodTok_toString p.2, isFloatTok_toString p.2⟩
  · exact hrow.2 t ht

theorem gmshElemRows_ok (h : ∀ e ∈ elems, e.length = 4) : RowsOk isIntTok 9 (gmshElemRows elems) := by
  intro r hr
  obtain ⟨p, hp, rfl⟩ := List.mem_map.mp hr
  refine ⟨by simp [h p.1 (List.fst_mem_of_mem_zipIdx hp)], fun t ht => ?_⟩
  have e : [toString p.2, "4", "2", "0", "1"] ++ p.1.map (fun a => toString (a + 1)) =
      (p.2 :: 4 :: 2 :: 0 :: 1 :: p.1.map (· + 1)).map toString := by
    simp only [List.map_cons, List.map_map, List.cons_append, List.nil_append]
    rfl
  rw [e] at ht
  exact ⟨(allDigits_of_mem_map_toString ht).goodTok, (allDigits_of_mem_map_toString ht).isIntTok⟩

theorem gmshNodeRows_coords (coords : List (List String)) : (gmshNodeRows coords).flatMap (·.drop 1) = coords.flatten := by
  rw [List.flatMap_def, gmshNodeRows,
    map_zipIdx_map coords 1 (fun p => toString p.2 :: p.1) (fun x => List.drop 1 x) id fun p => rfl, List.map_id]

theorem gmshElemRows_pos (elems : List (List Nat)) :
    ((gmshElemRows elems).any fun r => (List.drop 5 r).any fun s => s.startsWith "-" || s == "0") = false := by
  rw [List.any_eq_false]
  intro r hr
  obtain ⟨p, _, rfl⟩ := List.mem_map.mp hr
  rw [Bool.not_eq_true, List.any_eq_false]
  intro s hs
  rw [List.drop_left' (by rfl)] at hs
  obtain ⟨a, _, rfl⟩ := List.mem_map.mp hs
  rw [not_startsWith_minus_toString, Bool.false_or, Bool.not_eq_true, beq_eq_false_iff_ne]
  intro h0
  have : Nat.repr (a + 1) = Nat.repr 0 := h0
  rw [Nat.repr_inj] at this
  omega

theorem gmshElemRows_decode (elems : List (List Nat)) :
    (gmshElemRows elems).map (fun r => List.map (fun s => s.toNat! - 1) (List.drop 5 r)) = elems := by
  rw [gmshElemRows, map_zipIdx_map elems 1 _ _ id, List.map_id]
  intro p
  rw [List.drop_left' (by rfl), List.map_map]
  refine map_eq_self fun a _ => ?_
  show (toString (a + 1)).toNat! - 1 = a
  rw [toNat!_toString]; rfl

/-- **a foreign Gmsh 2.2 ASCII file loads to the mesh it describes**, node numbers converted from 1-based to 0-based -/
theorem gmsh_spec (h : GoodMesh 4 coords elems) :
    readGmsh (gmshFile coords elems) = .ok { coords := coords.flatten, elems := elems } := by
  have hfile : gmshFile coords elems =
      "$MeshFormat" :: "2.2 0 8" :: "$EndMeshFormat" :: "$Nodes" :: toString coords.length ::
        ((gmshNodeRows coords).map (fun r => " ".intercalate r) ++
          ("$EndNodes" :: "$Elements" :: toString elems.length ::
            ((gmshElemRows elems).map (fun r => " ".intercalate r) ++ ["$EndElements"]))) := by
    unfold gmshFile
    simp only [List.cons_append, List.nil_append, List.append_assoc]
  have hN := gmshNodeRows_ok h.coords_ok
  have hE := gmshElemRows_ok h.2.1
  have hNlen : (gmshNodeRows coords).length = coords.length := by simp [gmshNodeRows]
  have hElen : (gmshElemRows elems).length = elems.length := by simp [gmshElemRows]
  have h1 : words "2.2 0 8" = ["2.2", "0", "8"] := by decide
  have hEN := words_tok "$EndNodes" (by decide)
  have hEE := words_tok "$EndElements" (by decide)
  have h4 : (toString coords.length).trimAscii.toString = toString coords.length :=
    trimAscii_tok _ (goodTok_toString _).2
  have hnodes := fun tail => takeNums_block hN hNlen tail
  have hchunkN := hN.chunk hNlen
  have helems := takeNums_block hE hElen ["$EndElements"]
  rw [Nat.mul_comm] at helems
  have hchunkE := hE.chunk hElen
  -- `read_gmsh` peeks at the first element line (`f.tell()` / `f.seek()`) for the row width and the element type: 9 and 4
  have hfirst : ∃ a tl, (readLine (tokenize ((gmshElemRows elems).map (fun r => " ".intercalate r) ++ ["$EndElements"]))).1
      = a :: "4" :: tl ∧ (a :: "4" :: tl).length = 9 := by
    obtain ⟨e, es, he⟩ := List.exists_cons_of_ne_nil h.2.2
    have hrow := hE ([toString 1, "4", "2", "0", "1"] ++ e.map fun a => toString (a + 1))
      (by rw [he]; simp [gmshElemRows, List.zipIdx_cons])
    refine ⟨toString 1, ["2", "0", "1"] ++ e.map fun a => toString (a + 1), ?_, by simpa using hrow.1⟩
    have htok : ∀ t ∈ toString 1 :: "4" :: "2" :: "0" :: "1" :: e.map (fun a => toString (a + 1)), GoodTok t :=
      fun t ht => (hrow.2 t ht).1
    rw [he]
    simp only [gmshElemRows, List.zipIdx_cons, List.map_cons, List.cons_append, List.nil_append]
    rw [readLine_tokenize, words_intercalate _ htok]
  obtain ⟨a, tl, hf1, hf2⟩ := hfirst
  rw [hfile]
  unfold readGmsh
  simp only [startsWith_self, h1, h4, isNatTok_toString, toNat!_toString, Bool.not_true, Bool.false_eq_true, if_false,
    bne_self_eq_false, Bool.or_self, hnodes, dropNL_tokenize _ _ (hEN ▸ List.cons_ne_nil _ _), readLine_tokenize,
    hEN, words_tok "$Elements" (by decide), words_toString, List.headD_cons, hf1, hf2,
    helems, dropNL_tokenize _ _ (hEE ▸ List.cons_ne_nil _ _), hEE,
    hchunkE, hchunkN, gmshNodeRows_coords, Nat.reduceSub, gmshElemRows_pos, gmshElemRows_decode]
end gmsh

/-- a value token of the vertex-function and `.ev` files (vertex-function values, eigenvalues, eigenvector entries): a float
    token without white space and without the bracket and separator characters `, ; ( ) { }` (true of every `str(float)`) -/
def VfTok (s : String) : Prop :=
  isFloatTok s = true ∧ ∀ c ∈ s.toList, isWs c = false ∧ [',', ';', '(', ')', '{', '}'].contains c = false

theorem VfTok.not_elem {s : String} (h : VfTok s) {cs : List Char} (hcs : ∀ y ∈ cs, y ∈ [',', ';', '(', ')', '{', '}']) :
    ∀ c ∈ s.toList, cs.contains c = false := by
  intro c hc
  have := (h.2 c hc).2
  rw [List.contains_eq_mem, decide_eq_false_iff_not] at this ⊢
  exact fun hm => this (hcs c hm)

theorem VfTok.goodTok {s : String} (h : VfTok s) : GoodTok s := by
  refine ⟨?_, fun c hc => (h.2 c hc).1⟩
  rintro rfl
  have := h.1
  rw [isFloatTok_eq] at this
  exact absurd this (by decide)

/-- **`read_vfunc ∘ write_vfunc = id`** -/
theorem vfunc_roundtrip (vals : List String) (hne : vals ≠ []) (h : ∀ v ∈ vals, VfTok v) :
    readVfunc (writeVfunc vals) = some vals := by
  have ht1 : ("Solution:" : String).trimAscii.toString = "Solution:" := trimAscii_tok _ (by decide)
  have ht2 : ("(" ++ ",".intercalate vals ++ ")").trimAscii.toString = "(" ++ ",".intercalate vals ++ ")" :=
    trimAscii_wrap "(" _ ")" (by decide) (by decide) (by decide) (by decide)
  have hJ : ∀ c ∈ (",".intercalate vals).toList, ['{', '(', ')', '}'].contains c = false :=
    forall_mem_intercalate (by decide) fun v hv => (h v hv).not_elem (by decide)
  have hstrip : stripChars ("(" ++ ",".intercalate vals ++ ")") ['{', '(', ')', '}'] = ",".intercalate vals := by
    rw [stripChars_append, stripChars_append, stripChars_clean _ _ hJ,
      show stripChars "(" ['{', '(', ')', '}'] = "" by decide, show stripChars ")" ['{', '(', ')', '}'] = "" by decide]
    simp
  have hsplit : splitBy (fun c => c == ',' || c == ';') (",".intercalate vals) = vals := by
    apply splitBy_intercalate _ "," ',' rfl rfl vals hne
    intro v hv x hx
    simpa using (h v hv).not_elem (cs := [',', ';']) (by decide) x hx
  have htrim : vals.map (·.trimAscii.toString) = vals :=
    map_eq_self fun v hv => trimAscii_tok v fun c hc => ((h v hv).2 c hc).1
  have hall : vals.all isFloatTok = true := List.all_eq_true.mpr fun v hv => (h v hv).1
  unfold readVfunc writeVfunc
  simp only [List.map_cons, List.map_nil, ht1, ht2, List.contains_cons, beq_self_eq_true, Bool.true_or, Bool.not_true,
    Bool.false_eq_true, if_false, List.erase_cons_head, hstrip, hsplit, htrim, hall, if_true]

/-- the two key tables that `readEv` writes out as literals (its third, `intKeys`, is named in the model); tied by
    `readEv_succ`, as is `lstrip` -/
def strKeys : List (String × String) := [("Creator:", "Creator"), ("File:", "File"), ("User:", "User")]
def floatKeys : List (String × String) := [("Area:", "Area"), ("Volume:", "Volume"), ("BLength:", "BLength")]

/-- what `readEv` tests the keys on -/
def lstrip (l : String) : String := l.trimAsciiStart.toString

/-- the branch `readEv` takes on a line -/
inductive EvKind where
  | str (key : String) | int (key : String) | pre | float (key : String) | evals | evecs | skip
deriving DecidableEq

/-- the reader's cascade of key tests, on the character list of the stripped line (a form the kernel can evaluate).
    `read_ev` tests the same keys interleaved (`EulerChar:` after the float keys, `time(pre)` before the two `Time(calc…)`);
    no key is a prefix of another, so at most one test holds and the order does not matter -/
def evKind (t : List Char) : EvKind :=
  match strKeys.find? (fun p => decide (p.1.toList <+: t)) with
  | some p => .str p.2
  | none =>
  match intKeys.find? (fun p => decide (p.1.toList <+: t)) with
  | some p => .int p.2
  | none =>
  if decide ("time(pre)".toList <+: t.map Char.toLower) then .pre else
  match floatKeys.find? (fun p => decide (p.1.toList <+: t)) with
  | some p => .float p.2
  | none =>
    if decide ("Eigenvalues".toList <+: t) then .evals else if decide ("Eigenvectors".toList <+: t) then .evecs else .skip

/-- what `readEv` does with a line `l` of the given kind (the branches of the model's code; tied by `readEv_succ`) -/
def evStep (fuel : Nat) (l : String) (rest : List String) (d : EvData) : EvKind → Option EvData
  | .str k => readEv fuel rest { d with strs := d.strs ++ [(k, afterColon l)] }
  | .int k => if isIntTok (afterColon l) then readEv fuel rest { d with ints := d.ints ++ [(k, afterColon l)] } else none
  | .pre => if isIntTok (afterColon l) then readEv fuel rest { d with ints := d.ints ++ [("TimePre", afterColon l)] } else none
  | .float k =>
    if isFloatTok (afterColon l) then readEv fuel rest { d with floats := d.floats ++ [(k, afterColon l)] } else none
  | .evals =>
    match braceBlock rest with
    | none => none
    | some (txt, rest') =>
      let vals := ((stripChars txt ['{', '}']).splitOn ";").map (·.trimAscii.toString)
      if vals.all isFloatTok then readEv fuel rest' { d with evals := vals } else none
  | .evecs =>
    match rest.dropWhile (fun x => !x.trimAscii.toString.startsWith "sizes") with
    | [] => none
    | sl :: rest1 =>
      match (words sl).drop 1 with
      | [a, b] =>
        if !(isNatTok a && isNatTok b) then none else
        match braceBlock rest1 with
        | none => none
        | some (txt, rest') =>
          let clean := stripChars txt ['{', '}', '(', ')']
          let toks := words (String.ofList (clean.toList.map fun c => if c == ';' || c == ',' then ' ' else c))
          if !toks.all isFloatTok then none else
          let n := a.toNat!; let k := b.toNat!
          if toks.length == n * k then
            readEv fuel rest' { d with evecs := some (n, k, chunk n k toks) }
          else readEv fuel rest' d
      | _ => none
  | .skip => readEv fuel rest d

theorem readEv_succ (fuel : Nat) (l : String) (rest : List String) (d : EvData) :
    readEv (fuel + 1) (l :: rest) d = evStep fuel l rest d (evKind (lstrip l).toList) := by
  rw [readEv]
  unfold evKind strKeys floatKeys lstrip
  simp only [startsWith_eq_decide, String.toLower, String.toList_map]
  -- the same six tests stand on both sides: name each result and split on it, so that both cascades step together
  generalize List.find? (fun p => decide (p.fst.toList <+: l.trimAsciiStart.toString.toList))
    [("Creator:", "Creator"), ("File:", "File"), ("User:", "User")] = o1
  cases o1 with
  | some p => simp only [evStep]
  | none =>
  generalize List.find? (fun p => decide (p.fst.toList <+: l.trimAsciiStart.toString.toList)) intKeys = o2
  cases o2 with
  | some p => simp only [evStep]
  | none =>
  generalize decide ("time(pre)".toList <+: l.trimAsciiStart.toString.toList.map Char.toLower) = b3
  cases b3 with
  | true => simp only [evStep, if_true]
  | false =>
  generalize List.find? (fun p => decide (p.fst.toList <+: l.trimAsciiStart.toString.toList))
    [("Area:", "Area"), ("Volume:", "Volume"), ("BLength:", "BLength")] = o4
  cases o4 with
  | some p => simp only [evStep, Bool.false_eq_true, if_false]
  | none =>
  simp only [evStep, startsWith_eq_decide, Bool.false_eq_true, if_false]
  generalize decide ("Eigenvalues".toList <+: l.trimAsciiStart.toString.toList) = b5
  cases b5 with
  | true => rfl
  | false =>
  generalize decide ("Eigenvectors".toList <+: l.trimAsciiStart.toString.toList) = b6
  cases b6 <;> rfl

/-- the text `a` settles whether `a ++ b` starts with `pat`: `pat` is a prefix of `a`, or differs from it inside `a` -/
abbrev Settles (a pat : List Char) : Prop := pat <+: a ∨ ¬ a <+: pat

theorem Settles.prefix_append {a pat : List Char} (h : Settles a pat) (b : List Char) :
    decide (pat <+: a ++ b) = decide (pat <+: a) := by
  rw [decide_eq_decide]
  refine ⟨fun hpre => ?_, fun hp => hp.trans (List.prefix_append _ _)⟩
  rcases List.prefix_or_prefix_of_prefix hpre (List.prefix_append _ _) with h1 | h1
  · exact h1
  · exact h.elim id fun h => absurd h1 h

/-- the head `a` settles every key test of the reader -/
abbrev HeadOk (a : List Char) : Prop :=
  (∀ p ∈ strKeys ++ (intKeys ++ floatKeys), Settles a p.1.toList) ∧ Settles a "Eigenvalues".toList ∧
  Settles a "Eigenvectors".toList ∧ Settles (a.map Char.toLower) "time(pre)".toList

theorem evKind_append {a : List Char} (h : HeadOk a) (b : List Char) : evKind (a ++ b) = evKind a := by
  unfold evKind
  rw [find?_congr fun p hp => (h.1 p (List.mem_append_left _ hp)).prefix_append b,
    find?_congr fun p hp => (h.1 p (List.mem_append_right _ (List.mem_append_left _ hp))).prefix_append b,
    find?_congr fun p hp => (h.1 p (List.mem_append_right _ (List.mem_append_right _ hp))).prefix_append b,
    h.2.1.prefix_append b, h.2.2.1.prefix_append b, List.map_append, h.2.2.2.prefix_append]

/-- **the dispatch of `readEv`**: a line whose stripped text begins with a head that settles the key tests is treated
    as the head alone would be -/
theorem readEv_head {l a b : String} (hl : lstrip l = a ++ b) (ha : HeadOk a.toList) (fuel : Nat) (rest : List String)
    (d : EvData) : readEv (fuel + 1) (l :: rest) d = evStep fuel l rest d (evKind a.toList) := by
  rw [readEv_succ, hl, String.toList_append, evKind_append ha]

/-- `blk` is consumed (with at most `blk.length` units of fuel) and turns the reader state `d` into `d'`, whatever
    follows -/
def Reads (blk : List String) (d d' : EvData) : Prop :=
  ∃ c, c ≤ blk.length ∧ ∀ f rest, readEv (f + c) (blk ++ rest) d = readEv f rest d'

theorem Reads.nil (d : EvData) : Reads [] d d := ⟨0, Nat.le_refl _, fun _ _ => rfl⟩

theorem Reads.append {a b : List String} {d d₁ d₂ : EvData} (h₁ : Reads a d d₁) (h₂ : Reads b d₁ d₂) :
    Reads (a ++ b) d d₂ := by
  obtain ⟨c₁, hc₁, h₁⟩ := h₁
  obtain ⟨c₂, hc₂, h₂⟩ := h₂
  refine ⟨c₁ + c₂, by rw [List.length_append]; omega, fun f rest => ?_⟩
  rw [show f + (c₁ + c₂) = (f + c₂) + c₁ by omega, List.append_assoc, h₁, h₂]

theorem Reads.one {l : String} {d d' : EvData} (h : ∀ f rest, readEv (f + 1) (l :: rest) d = readEv f rest d') :
    Reads [l] d d' := ⟨1, Nat.le_refl _, fun f rest => h f rest⟩

theorem Reads.run {blk : List String} {d d' : EvData} (h : Reads blk d d') (fuel : Nat) (hf : blk.length ≤ fuel) :
    readEv fuel blk d = some d' := by
  obtain ⟨c, hc, h⟩ := h
  have := h (fuel - c) []
  rw [List.append_nil, show fuel - c + c = fuel by omega] at this
  rw [this]
  cases fuel - c <;> rfl

/-- the field names `write_ev` knows, by kind; the reader's tables `strKeys`, `floatKeys` and the model's
    `intKeys` hold them with the colon (`intKeys` also the two `Time(calc…)` heads) -/
def strNames : List String := ["Creator", "File", "User"]
def intNames : List String := ["Refine", "Degree", "Dimension", "Elements", "DoF", "NumEW", "EulerChar"]
def floatNames : List String := ["Area", "Volume", "BLength"]

/-- the heads of the lines `write_ev` produces that are not `name:`, with the branch of the reader each belongs to -/
def otherHeads : List (String × EvKind) :=
  [("Time(Pre)", .pre), ("Time(calcAB)", .int "TimeCalcAB"), ("Time(calcEW)", .int "TimeCalcEW"), ("Time(total )", .skip),
   ("Eigenvalues:", .evals), ("Eigenvectors:", .evecs)]

def evHeads : List (String × EvKind) :=
  strNames.map (fun K => (K ++ ":", .str K)) ++ (intNames.map (fun K => (K ++ ":", .int K)) ++
  (floatNames.map (fun K => (K ++ ":", .float K)) ++ otherHeads))

/-- evaluated once for all heads; per head: `HeadOk` and the kind go to `readEv_head`, no white space in front to
    `lstrip_id`, non-empty to `readEv_headLine`, no colon before the last character to `afterColon_kvLine`; the last
    conjunct is the blank line (`reads_blank`) -/
theorem evHeads_table : (∀ x ∈ evHeads, HeadOk x.1.toList ∧ evKind x.1.toList = x.2 ∧
    x.1.toList.head?.any Char.isWhitespace = false ∧ x.1.toList ≠ [] ∧ ∀ c ∈ x.1.toList.dropLast, c ≠ ':') ∧
    evKind [] = .skip := by
  decide +kernel

/-- the two line shapes of `write_ev` (its inline format strings; tied by `writeEv_eq`) -/
def kvLine (label v : String) : String := " " ++ label ++ ": " ++ v
def tLine (label v : String) : String := " " ++ label ++ " : " ++ v

def Trimmed (v : String) : Prop := v.trimAscii.toString = v

theorem lstrip_id (s : String) (h : s.toList.head?.any Char.isWhitespace = false) : lstrip s = s := by
  unfold lstrip
  rw [trimAsciiStart_eq]
  have := dropWhile_of_split Char.isWhitespace [] s.toList (by simp) h
  simp only [List.nil_append] at this
  simp only [trimStartL]
  rw [this, String.ofList_toList]

theorem kvLine_eq (label v : String) : kvLine label v = " " ++ ((label ++ ":") ++ (" " ++ v)) := by
  unfold kvLine
  rw [show (": " : String) = ":" ++ " " by simp]
  simp only [String.append_assoc]

theorem tLine_eq (label v : String) : tLine label v = " " ++ (label ++ (" : " ++ v)) := by
  unfold tLine; simp only [String.append_assoc]

-- `h` has the shape of the last component of `evHeads_table`, whose heads are `label ++ ":"`
theorem afterColon_kvLine (label : String) (h : ∀ x ∈ (label ++ ":").toList.dropLast, x ≠ ':') {v : String}
    (hv : Trimmed v) : afterColon (kvLine label v) = v := by
  rw [String.toList_append, show (":" : String).toList = [':'] by decide, List.dropLast_concat] at h
  have e : kvLine label v = (" " ++ label) ++ ":" ++ (" " ++ v) := by
    rw [kvLine_eq]; simp only [String.append_assoc]
  rw [e, afterColon_eq _ _ (by
    intro x hx
    rw [String.toList_append, List.mem_append] at hx
    rcases hx with hx | hx
    · rw [show (" " : String).toList = [' '] by decide, List.mem_singleton] at hx
      rw [hx]; decide
    · exact h x hx), trim_space_left, hv]

theorem afterColon_tLine (label : String) (h : ∀ x ∈ (" " ++ label ++ " ").toList, x ≠ ':') {v : String} (hv : Trimmed v) :
    afterColon (tLine label v) = v := by
  have e : tLine label v = (" " ++ label ++ " ") ++ ":" ++ (" " ++ v) := by
    unfold tLine
    rw [show (" : " : String) = " " ++ (":" ++ " ") by decide]
    simp only [String.append_assoc]
  rw [e, afterColon_eq _ _ h, trim_space_left, hv]

section lines
variable {a : String} {kind : EvKind} (h : (a, kind) ∈ evHeads) (fuel : Nat) (rest : List String) (d : EvData)
include h

theorem readEv_headOnly : readEv (fuel + 1) (a :: rest) d = evStep fuel a rest d kind := by
  obtain ⟨ha, hk, hh, -, -⟩ := evHeads_table.1 _ h
  rw [readEv_head (b := "") (by rw [String.append_empty]; exact lstrip_id a hh) ha, hk]

theorem readEv_headLine (b : String) :
    readEv (fuel + 1) ((" " ++ (a ++ b)) :: rest) d = evStep fuel (" " ++ (a ++ b)) rest d kind := by
  obtain ⟨ha, hk, hh, hne, -⟩ := evHeads_table.1 _ h
  have hws : (a ++ b).toList.head?.any Char.isWhitespace = false := by
    obtain ⟨c, r, e⟩ := List.exists_cons_of_ne_nil hne
    rw [e] at hh
    rw [String.toList_append, e]
    exact hh
  rw [readEv_head (trimStart_space _ hws) ha, hk]
end lines

theorem otherHeads_sub {x : String × EvKind} (h : x ∈ otherHeads) : x ∈ evHeads :=
  List.mem_append_right _ (List.mem_append_right _ (List.mem_append_right _ h))

def addStrs (d : EvData) (es : List (String × String)) : EvData := { d with strs := d.strs ++ es }
def addInts (d : EvData) (es : List (String × String)) : EvData := { d with ints := d.ints ++ es }
def addFloats (d : EvData) (es : List (String × String)) : EvData := { d with floats := d.floats ++ es }

theorem reads_strLine (K : String) (hK : K ∈ strNames) (v : String) (hv : Trimmed v) (d : EvData) :
    Reads [kvLine K v] d (addStrs d [(K, v)]) := by
  refine Reads.one fun fuel rest => ?_
  have hm : (K ++ ":", EvKind.str K) ∈ evHeads := List.mem_append_left _ (List.mem_map_of_mem hK)
  obtain ⟨-, -, -, -, hcolon⟩ := evHeads_table.1 _ hm
  rw [kvLine_eq, readEv_headLine hm, ← kvLine_eq]
  simp only [evStep, addStrs, afterColon_kvLine K hcolon hv]

theorem reads_intLine (K : String) (hK : K ∈ intNames) (v : String) (hv : Trimmed v ∧ isIntTok v = true) (d : EvData) :
    Reads [kvLine K v] d (addInts d [(K, v)]) := by
  refine Reads.one fun fuel rest => ?_
  have hm : (K ++ ":", EvKind.int K) ∈ evHeads :=
    List.mem_append_right _ (List.mem_append_left _ (List.mem_map_of_mem hK))
  obtain ⟨-, -, -, -, hcolon⟩ := evHeads_table.1 _ hm
  rw [kvLine_eq, readEv_headLine hm, ← kvLine_eq]
  simp only [evStep, addInts, afterColon_kvLine K hcolon hv.1, hv.2, if_true]

theorem reads_floatLine (K : String) (hK : K ∈ floatNames) (v : String) (hv : Trimmed v ∧ isFloatTok v = true)
    (d : EvData) :
    Reads [kvLine K v] d (addFloats d [(K, v)]) := by
  refine Reads.one fun fuel rest => ?_
  have hm : (K ++ ":", EvKind.float K) ∈ evHeads :=
    List.mem_append_right _ (List.mem_append_right _ (List.mem_append_left _ (List.mem_map_of_mem hK)))
  obtain ⟨-, -, -, -, hcolon⟩ := evHeads_table.1 _ hm
  rw [kvLine_eq, readEv_headLine hm, ← kvLine_eq]
  simp only [evStep, addFloats, afterColon_kvLine K hcolon hv.1, hv.2, if_true]

theorem reads_tPre (v : String) (hv : Trimmed v ∧ isIntTok v = true) (d : EvData) :
    Reads [tLine "Time(Pre)" v] d (addInts d [("TimePre", v)]) := by
  refine Reads.one fun fuel rest => ?_
  rw [tLine_eq, readEv_headLine (kind := .pre) (otherHeads_sub (by decide)), ← tLine_eq]
  simp only [evStep, addInts, afterColon_tLine "Time(Pre)" (by decide) hv.1, hv.2, if_true]

theorem reads_tAB (v : String) (hv : Trimmed v ∧ isIntTok v = true) (d : EvData) :
    Reads [tLine "Time(calcAB)" v] d (addInts d [("TimeCalcAB", v)]) := by
  refine Reads.one fun fuel rest => ?_
  rw [tLine_eq, readEv_headLine (kind := .int "TimeCalcAB") (otherHeads_sub (by decide)), ← tLine_eq]
  simp only [evStep, addInts, afterColon_tLine "Time(calcAB)" (by decide) hv.1, hv.2, if_true]

theorem reads_tEW (v : String) (hv : Trimmed v ∧ isIntTok v = true) (d : EvData) :
    Reads [tLine "Time(calcEW)" v] d (addInts d [("TimeCalcEW", v)]) := by
  refine Reads.one fun fuel rest => ?_
  rw [tLine_eq, readEv_headLine (kind := .int "TimeCalcEW") (otherHeads_sub (by decide)), ← tLine_eq]
  simp only [evStep, addInts, afterColon_tLine "Time(calcEW)" (by decide) hv.1, hv.2, if_true]

theorem splitBy_evals (evals : List String) (hne : evals ≠ []) (h : ∀ e ∈ evals, ∀ c ∈ e.toList, c ≠ ';') :
    splitBy (fun x => x == ';') (" " ++ " ; ".intercalate evals ++ " ") = evals.map fun e => " " ++ e ++ " " := by
  rw [pad_intercalate evals hne]
  refine splitBy_intercalate _ ";" ';' rfl rfl _ (by simpa using hne) fun v hv x hx => ?_
  obtain ⟨e, he, rfl⟩ := List.mem_map.mp hv
  simp only [String.toList_append, List.mem_append] at hx
  rcases hx with (hx | hx) | hx
  · rw [List.mem_singleton.mp hx]; decide
  · simpa using h e he x hx
  · rw [List.mem_singleton.mp hx]; decide

theorem reads_evals (evals : List String) (hne : evals ≠ []) (h : ∀ e ∈ evals, VfTok e) (d : EvData) :
    Reads ["Eigenvalues:", "{ " ++ " ; ".intercalate evals ++ " }"] d { d with evals := evals } := by
  have hJ : ∀ c ∈ (" " ++ " ; ".intercalate evals ++ " ").toList, ['{', '}'].contains c = false := by
    simp only [String.toList_append, List.forall_mem_append]
    exact ⟨⟨by decide, forall_mem_intercalate (by decide) fun v hv => (h v hv).not_elem (by decide)⟩, by decide⟩
  have hline : "{ " ++ " ; ".intercalate evals ++ " }" = "{" ++ (" " ++ " ; ".intercalate evals ++ " ") ++ "}" := by
    rw [show ("{ " : String) = "{" ++ " " by decide, show (" }" : String) = " " ++ "}" by decide]
    simp only [String.append_assoc]
  have htrim : ("{ " ++ " ; ".intercalate evals ++ " }").trimAscii.toString = "{ " ++ " ; ".intercalate evals ++ " }" :=
    trimAscii_wrap "{ " _ " }" (by decide) (by decide) (by decide) (by decide)
  have hstrip : stripChars ("{ " ++ " ; ".intercalate evals ++ " }") ['{', '}'] = " " ++ " ; ".intercalate evals ++ " " := by
    rw [hline, stripChars_append, stripChars_append, stripChars_clean _ _ hJ,
      show stripChars "{" ['{', '}'] = "" by decide, show stripChars "}" ['{', '}'] = "" by decide]
    simp
  have hb : ∀ rest, braceBlock (("{ " ++ " ; ".intercalate evals ++ " }") :: rest) =
      some ("{ " ++ " ; ".intercalate evals ++ " }", rest) := by
    intro rest
    rw [braceBlock_start _ _ (by simp [String.toList_append])]
    have := collect_block [] ("{ " ++ " ; ".intercalate evals ++ " }") rest ""
      (by simp) (by rw [String.contains_char_eq]; simp [String.toList_append])
    simp only [List.nil_append, List.map_nil, concatS, htrim] at this
    rw [this]; simp
  have hvals : ((stripChars ("{ " ++ " ; ".intercalate evals ++ " }") ['{', '}']).splitOn ";").map
      (·.trimAscii.toString) = evals := by
    rw [hstrip, splitOn_char_eq_splitBy _ ";" ';' rfl,
      splitBy_evals evals hne fun e he c hc => by simpa using (h e he).not_elem (cs := [';']) (by decide) c hc,
      List.map_map]
    exact map_eq_self fun e he => trim_pad e (h e he).goodTok
  have hall : evals.all isFloatTok = true := List.all_eq_true.mpr fun e he => (h e he).1
  refine ⟨1, by simp, fun fuel rest => ?_⟩
  rw [List.cons_append, List.cons_append, List.nil_append,
    readEv_headOnly (kind := .evals) (otherHeads_sub (by decide))]
  simp only [evStep, hb rest, hvals, hall, if_true]

/-- the cleaning `readEv` applies to the text of the eigenvector block (the model's expression; `reads_evecs` unfolds it) -/
def cleanS (s : String) : String :=
  String.ofList ((stripChars s ['{', '}', '(', ')']).toList.map fun c => if c == ';' || c == ',' then ' ' else c)

theorem cleanS_append (a b : String) : cleanS (a ++ b) = cleanS a ++ cleanS b := by
  apply String.toList_injective
  simp [cleanS, stripChars_append, String.toList_append]

/-- one column as `evecPart` writes it (tied by `evecPart_some`) -/
def bodyOf (c : List String) : String := "(" ++ ",".intercalate c ++ ")"

theorem cleanS_intercalate (c : List String) (h : ∀ t ∈ c, VfTok t) : cleanS (",".intercalate c) = " ".intercalate c := by
  induction c with
  | nil => decide
  | cons a c ih =>
    have ha : cleanS a = a := by
      unfold cleanS
      rw [stripChars_clean _ _ ((h a List.mem_cons_self).not_elem (by decide))]
      apply String.toList_injective
      rw [String.toList_ofList]
      refine map_eq_self fun x hx => ?_
      have := (h a List.mem_cons_self).not_elem (cs := [';', ',']) (by decide) x hx
      simp only [List.contains_cons, List.contains_nil, Bool.or_false] at this
      rw [this]; rfl
    cases c with
    | nil => rw [String.intercalate_singleton, String.intercalate_singleton, ha]
    | cons b c =>
      rw [String.intercalate_cons_cons, String.intercalate_cons_cons, cleanS_append, cleanS_append, ha,
        ih fun t ht => h t (List.mem_cons_of_mem _ ht), show cleanS "," = " " by decide]

theorem cleanS_bodyOf (c : List String) (h : ∀ t ∈ c, VfTok t) : cleanS (bodyOf c) = " ".intercalate c := by
  unfold bodyOf
  rw [cleanS_append, cleanS_append, cleanS_intercalate c h, show cleanS "(" = "" by decide,
    show cleanS ")" = "" by decide]
  simp

theorem words_col (c : List String) (h : ∀ t ∈ c, VfTok t) (z : String) :
    words (" ".intercalate c ++ " " ++ z) = c ++ words z := by
  rw [words_append_space, words_intercalate c fun t ht => (h t ht).goodTok]

theorem bodyOf_mem (c : List String) (h : ∀ t ∈ c, VfTok t) : ∀ x ∈ (bodyOf c).toList, ['{', '}'].contains x = false := by
  simp only [bodyOf, String.toList_append, List.forall_mem_append]
  exact ⟨⟨by decide, forall_mem_intercalate (by decide) fun v hv => (h v hv).not_elem (by decide)⟩, by decide⟩

theorem bodyOf_head (c : List String) : (bodyOf c).toList.head? = some '(' := by
  simp [bodyOf, String.toList_append]

/-- one line of the eigenvector block: what `write_ev` puts before the column, the column, what it puts after -/
structure Deco where
  pre : String
  col : List String
  post : String

def evLine (t : Deco) : String := t.pre ++ bodyOf t.col ++ t.post

def DecoOk (t : Deco) : Prop :=
  (t.pre = "" ∨ t.pre = "{ ") ∧ (t.post = " ;" ∨ t.post = " }") ∧ ∀ x ∈ t.col, VfTok x

section deco
variable {t : Deco} (h : DecoOk t)
include h

theorem trim_evLine : (evLine t).trimAscii.toString = evLine t := by
  obtain ⟨hp, hs, -⟩ := h
  unfold evLine
  apply trimAscii_id
  · rcases hp with hp | hp <;> rw [hp]
    · simp [String.toList_append, bodyOf]
    · simp [String.toList_append]
  · rw [String.toList_append, List.getLast?_append]
    rcases hs with hs | hs <;> rw [hs] <;> simp

theorem contains_close_evLine : (evLine t).contains '}' = decide (t.post = " }") := by
  obtain ⟨hp, hs, hv⟩ := h
  unfold evLine
  rw [String.contains_char_eq, String.toList_append, String.toList_append]
  rcases hs with hs | hs <;> rw [hs]
  · rw [show decide ((" ;" : String) = " }") = false by decide, decide_eq_false_iff_not, List.mem_append,
      List.mem_append]
    rintro ((hx | hx) | hx)
    · rcases hp with hp | hp <;> rw [hp] at hx <;> simp at hx
    · exact absurd (bodyOf_mem _ hv _ hx) (by decide)
    · simp at hx
  · simp

theorem words_cleanS_evLine (z : String) : words (cleanS (evLine t) ++ z) = t.col ++ words z := by
  obtain ⟨hp, hs, hv⟩ := h
  have e1 : ∀ s, words (cleanS t.pre ++ s) = words s := by
    intro s
    rcases hp with hp | hp <;> rw [hp]
    · rw [show cleanS "" = "" by decide, String.empty_append]
    · rw [show cleanS "{ " = " " by decide, words_space_left]
  unfold evLine
  rw [cleanS_append, cleanS_append, cleanS_bodyOf _ hv]
  simp only [String.append_assoc]
  rw [e1]
  rcases hs with hs | hs <;> rw [hs]
  · rw [show cleanS " ;" = " " ++ " " by decide, String.append_assoc, ← String.append_assoc, words_col _ hv,
      words_space_left]
  · rw [show cleanS " }" = " " by decide, ← String.append_assoc, words_col _ hv]
end deco

theorem words_cleanS_lines (T : List Deco) (h : ∀ t ∈ T, DecoOk t) :
    words (cleanS (concatS (T.map evLine))) = (T.map (·.col)).flatten := by
  induction T with
  | nil => decide
  | cons t T ih =>
    rw [List.map_cons, concatS, cleanS_append, words_cleanS_evLine (h t List.mem_cons_self),
      ih fun t' ht' => h t' (List.mem_cons_of_mem _ ht')]
    rfl

theorem braceBlock_lines (T0 : List Deco) (tl : Deco)
    (h0 : ∀ t ∈ T0, DecoOk t ∧ t.post = " ;") (hl : DecoOk tl ∧ tl.post = " }")
    (hopen : ((T0 ++ [tl]).head?.map (·.pre)) = some "{ ") (rest : List String) :
    braceBlock ("" :: ((T0 ++ [tl]).map evLine ++ rest)) = some (concatS ((T0 ++ [tl]).map evLine), rest) := by
  have hcol := collect_block (T0.map evLine) (evLine tl) rest ""
    (by
      intro x hx
      obtain ⟨t, ht, rfl⟩ := List.mem_map.mp hx
      rw [contains_close_evLine (h0 t ht).1, (h0 t ht).2]; decide)
    (by rw [contains_close_evLine hl.1, hl.2]; decide)
  have htrim : (T0.map evLine).map (·.trimAscii.toString) = T0.map evLine := by
    rw [List.map_map]
    exact List.map_congr_left fun t ht => trim_evLine (h0 t ht).1
  rw [htrim, trim_evLine hl.1] at hcol
  have hform : (T0 ++ [tl]).map evLine ++ rest = T0.map evLine ++ evLine tl :: rest := by simp
  have hstart : ∃ l r, T0.map evLine ++ evLine tl :: rest = l :: r ∧ l.contains '{' = true := by
    have hb : ∀ t : Deco, t.pre = "{ " → (evLine t).contains '{' = true := by
      intro t ht
      rw [evLine, ht, String.contains_char_eq]; simp [String.toList_append]
    cases T0 with
    | nil => exact ⟨_, _, rfl, hb tl (by simpa using hopen)⟩
    | cons t T0 => exact ⟨_, _, rfl, hb t (by simpa using hopen)⟩
  obtain ⟨l, r, e, hl'⟩ := hstart
  rw [braceBlock_skip "" _ (by rw [String.contains_char_eq]; decide), hform, e, braceBlock_start l r hl', ← e, hcol,
    List.map_append, concatS_append]
  simp [concatS]

def evecDeco (init : List (List String)) (lc : List String) :
    List Deco × Deco :=
  match init with
  | [] => ([], ⟨"{ ", lc, " }"⟩)
  | c0 :: init' => (⟨"{ ", c0, " ;"⟩ :: init'.map (fun c => ⟨"", c, " ;"⟩), ⟨"", lc, " }"⟩)

/-- the lines of the eigenvector block for the columns `init ++ [lc]` (as `write_ev` lays them out: `{ ` before the
    first column, ` ;` after every column but the last, ` }` after the last; a single column gives one line) -/
def evecBlock (init : List (List String)) (lc : List String) : List String :=
  ((evecDeco init lc).1 ++ [(evecDeco init lc).2]).map evLine

section block
variable (init : List (List String)) (lc : List String)

theorem evecDeco_cols : (((evecDeco init lc).1 ++ [(evecDeco init lc).2]).map (·.col)) = init ++ [lc] := by
  cases init with
  | nil => rfl
  | cons c0 init => simp [evecDeco, Function.comp_def]

variable (h : ∀ c ∈ init ++ [lc], ∀ t ∈ c, VfTok t)
include h

theorem evecDeco_ok : (∀ t ∈ (evecDeco init lc).1, DecoOk t ∧ t.post = " ;") ∧
    (DecoOk (evecDeco init lc).2 ∧ (evecDeco init lc).2.post = " }") ∧
    (((evecDeco init lc).1 ++ [(evecDeco init lc).2]).head?.map (·.pre)) = some "{ " := by
  cases init with
  | nil => exact ⟨fun _ ht => absurd ht List.not_mem_nil, ⟨⟨Or.inr rfl, Or.inr rfl, h lc (by simp)⟩, rfl⟩, rfl⟩
  | cons c0 init =>
    refine ⟨fun t ht => ?_, ⟨⟨Or.inl rfl, Or.inr rfl, h lc (by simp)⟩, rfl⟩, rfl⟩
    rcases List.mem_cons.mp ht with rfl | ht
    · exact ⟨⟨Or.inr rfl, Or.inl rfl, h c0 (by simp)⟩, rfl⟩
    · obtain ⟨c, hc, rfl⟩ := List.mem_map.mp ht
      exact ⟨⟨Or.inl rfl, Or.inl rfl, h c (by simp [hc])⟩, rfl⟩

theorem words_cleanS_evecBlock : words (cleanS (concatS (evecBlock init lc))) = (init ++ [lc]).flatten := by
  obtain ⟨h0, hl, -⟩ := evecDeco_ok init lc h
  rw [evecBlock, words_cleanS_lines _ (fun t ht => by
    rcases List.mem_append.mp ht with ht | ht
    · exact (h0 t ht).1
    · rw [List.mem_singleton.mp ht]; exact hl.1), evecDeco_cols]

theorem braceBlock_evecBlock (rest : List String) :
    braceBlock ("" :: (evecBlock init lc ++ rest)) = some (concatS (evecBlock init lc), rest) := by
  obtain ⟨h0, hl, hopen⟩ := evecDeco_ok init lc h
  exact braceBlock_lines _ _ h0 hl hopen rest
end block

/-- the eigenvector block `Eigenvectors:` / `sizes: n k` / blank / `{ (..) ; … (..) }`, every shape `(n,k)` with `k ≥ 1`
    (one column: a single line `{ (…) }`) -/
theorem reads_evecs (n k : Nat) (init : List (List String)) (lc : List String)
    (h : ∀ c ∈ init ++ [lc], ∀ t ∈ c, VfTok t) (hk : (init ++ [lc]).length = k)
    (hn : ∀ c ∈ init ++ [lc], c.length = n) (d : EvData) :
    Reads ("Eigenvectors:" :: ("sizes: " ++ toString n ++ " " ++ toString k) :: "" :: evecBlock init lc) d
      { d with evecs := some (n, k, init ++ [lc]) } := by
  have hsl : ("sizes: " ++ toString n ++ " " ++ toString k).trimAscii.toString =
      "sizes: " ++ toString n ++ " " ++ toString k := by
    have := trimAscii_wrap "sizes: " (toString n ++ " ") (toString k) (by decide) (goodTok_toString k).1 (by decide)
      (ends_of_noWs (goodTok_toString k).2).2
    simpa only [String.append_assoc] using this
  have hw : (words ("sizes: " ++ toString n ++ " " ++ toString k)).drop 1 = [toString n, toString k] := by
    rw [words_three (a := "sizes:") (by decide) (goodTok_toString n) (goodTok_toString k) (by simp [String.append_assoc])]
    rfl
  have htoks := words_cleanS_evecBlock init lc h
  unfold cleanS at htoks
  have hR : RowsOk isFloatTok n (init ++ [lc]) :=
    fun c hc => ⟨hn c hc, fun t ht => ⟨(h c hc t ht).goodTok, (h c hc t ht).1⟩⟩
  have hlen : (init ++ [lc]).flatten.length = n * k := by rw [hR.length_flatten, hk]
  have hchunk : chunk n k (init ++ [lc]).flatten = init ++ [lc] := hR.chunk hk
  have hdw : ∀ rest, (("sizes: " ++ toString n ++ " " ++ toString k) :: "" :: (evecBlock init lc ++ rest)).dropWhile
      (fun x => !x.trimAscii.toString.startsWith "sizes") =
      ("sizes: " ++ toString n ++ " " ++ toString k) :: "" :: (evecBlock init lc ++ rest) := by
    intro rest
    rw [List.dropWhile_cons_of_neg]
    rw [hsl]
    simp [startsWith_eq_decide, String.toList_append]
  have hall : (init ++ [lc]).flatten.all isFloatTok = true := by
    rw [List.all_eq_true]
    intro t ht
    obtain ⟨c, hc, ht⟩ := List.mem_flatten.mp ht
    exact (h c hc t ht).1
  have hlen' : ((init ++ [lc]).flatten.length == n * k) = true := by simpa using hlen
  refine ⟨1, by simp, fun fuel rest => ?_⟩
  rw [List.cons_append, List.cons_append, List.cons_append,
    readEv_headOnly (kind := .evecs) (otherHeads_sub (by decide))]
  simp only [evStep, hdw, hw, isNatTok_toString, braceBlock_evecBlock init lc h rest, htoks, hall, hlen', toNat!_toString,
    hchunk, Bool.and_self, Bool.not_true, Bool.false_eq_true, if_false, if_true]

/-- an optional line showing the value stored under `key` (`optL`, `totalPart`, `evecPart`: the pieces of `writeEv`, tied
    by `writeEv_eq`) -/
def optL (line : String → String) (l : List (String × String)) (key : String) : List String :=
  match lookupS l key with
  | some v => [line v]
  | none => []

def optLine (l : List (String × String)) (key label : String) : List String := optL (kvLine label) l key

def optTLine (l : List (String × String)) (key label : String) : List String := optL (tLine label) l key

def totalPart (d : EvData) : List String :=
  match lookupS d.ints "TimePre", lookupS d.ints "TimeCalcAB", lookupS d.ints "TimeCalcEW" with
  | some a, some b, some c => [s!" Time(total ) : {a.toInt! + b.toInt! + c.toInt!}"]
  | _, _, _ => []

def evecPart (ev : Option (Nat × Nat × List (List String))) : List String :=
  match ev with
  | none => []
  | some (n, k, cols) =>
    let body := cols.map fun c => "(" ++ ",".intercalate c ++ ")"
    let lines := match body.reverse with
      | [] => []
      | last :: revInit => (revInit.reverse.map (· ++ " ;")) ++ [last ++ " }"]
    ["Eigenvectors:", s!"sizes: {n} {k}", ""] ++
      (match lines with
       | [] => ["{ "]
       | l0 :: ls => ("{ " ++ l0) :: ls)

theorem writeEv_eq (d : EvData) :
    writeEv d =
      optLine d.strs "Creator" "Creator" ++ optLine d.strs "File" "File" ++ optLine d.strs "User" "User" ++
      optLine d.ints "Refine" "Refine" ++ optLine d.ints "Degree" "Degree" ++ optLine d.ints "Dimension" "Dimension" ++
      optLine d.ints "Elements" "Elements" ++ optLine d.ints "DoF" "DoF" ++ optLine d.ints "NumEW" "NumEW" ++ [""] ++
      optLine d.floats "Area" "Area" ++ optLine d.floats "Volume" "Volume" ++ optLine d.floats "BLength" "BLength" ++
      optLine d.ints "EulerChar" "EulerChar" ++ [""] ++
      optTLine d.ints "TimePre" "Time(Pre)" ++ optTLine d.ints "TimeCalcAB" "Time(calcAB)" ++
      optTLine d.ints "TimeCalcEW" "Time(calcEW)" ++ totalPart d ++ [""] ++
      ["Eigenvalues:", "{ " ++ " ; ".intercalate d.evals ++ " }", ""] ++ evecPart d.evecs := rfl

/-- the entry the reader records for `key`: what `optL` writes, read back -/
def optE (l : List (String × String)) (key : String) : List (String × String) :=
  match lookupS l key with
  | some v => [(key, v)]
  | none => []

/-- an optional line is read into the entry recorded for its key (`upd`: the field it goes to, `Ok`: what the reader
    demands of the value) -/
theorem reads_opt {src : List (String × String)} {key : String} {line : String → String} {Ok : String → Prop}
    {upd : EvData → List (String × String) → EvData} (hnil : ∀ d, upd d [] = d) (hv : ∀ p ∈ src, Ok p.2)
    (h : ∀ v, Ok v → ∀ d, Reads [line v] d (upd d [(key, v)])) (d : EvData) :
    Reads (optL line src key) d (upd d (optE src key)) := by
  unfold optL optE
  cases hl : lookupS src key with
  | none => rw [hnil]; exact Reads.nil d
  | some v =>
    obtain ⟨k', hm⟩ := lookupS_mem hl
    exact h v (hv (k', v) hm) d

theorem addStrs_nil (d : EvData) : addStrs d [] = d := by rw [addStrs, List.append_nil]
theorem addInts_nil (d : EvData) : addInts d [] = d := by rw [addInts, List.append_nil]
theorem addFloats_nil (d : EvData) : addFloats d [] = d := by rw [addFloats, List.append_nil]

theorem reads_blank (d : EvData) : Reads [""] d d :=
  Reads.one fun f rest => by
    rw [readEv_succ, lstrip_id "" rfl]
    exact congrArg _ evHeads_table.2

/-- the `Time(total )` line is not a key of the reader -/
theorem reads_total (src d : EvData) : Reads (totalPart src) d d := by
  unfold totalPart
  split
  · refine Reads.one fun f rest => ?_
    show readEv (f + 1) (tLine "Time(total )" _ :: rest) d = _
    rw [tLine_eq, readEv_headLine (kind := .skip) (otherHeads_sub (by decide))]
    rfl
  · exact Reads.nil d

theorem evecPart_some (n k : Nat) (init : List (List String)) (lc : List String) :
    evecPart (some (n, k, init ++ [lc])) =
      "Eigenvectors:" :: ("sizes: " ++ toString n ++ " " ++ toString k) :: "" :: evecBlock init lc := by
  unfold evecPart
  simp only [List.map_append, List.map_cons, List.map_nil, List.reverse_append, List.reverse_cons, List.reverse_nil,
    List.nil_append, List.cons_append, List.reverse_reverse, List.map_map]
  cases init with
  | nil => rfl
  | cons c0 init =>
    simp only [evecBlock, evecDeco, evLine, bodyOf, List.map_cons, List.map_append, List.map_map, List.map_nil,
      List.cons_append, String.empty_append, String.append_assoc, Function.comp_def]
    rfl

/-- the last clause of `EvGood` under a name -/
def EvecsOk (ev : Option (Nat × Nat × List (List String))) : Prop :=
  match ev with
  | none => True
  | some (n, k, cols) => cols ≠ [] ∧ cols.length = k ∧ ∀ c ∈ cols, c.length = n ∧ ∀ t ∈ c, VfTok t

theorem reads_evecPart (ev : Option (Nat × Nat × List (List String))) (hvec : EvecsOk ev)
    (d : EvData) (hd : d.evecs = none) : Reads (evecPart ev) d { d with evecs := ev } := by
  match ev, hvec with
  | none, _ =>
    have e : ({ d with evecs := none } : EvData) = d := by rw [← hd]
    rw [e]
    exact Reads.nil d
  | some (n, k, cols), ⟨hcne, hk, hcols⟩ =>
    obtain ⟨init, lc, rfl⟩ : ∃ init lc, cols = init ++ [lc] :=
      ⟨cols.dropLast, cols.getLast hcne, (List.dropLast_concat_getLast hcne).symm⟩
    rw [evecPart_some]
    exact reads_evecs n k init lc (fun c hc => (hcols c hc).2) hk (fun c hc => (hcols c hc).1) d

/-- well-formedness of the data handed to `write_ev`: string values are stripped, integer / float fields are integer /
    float tokens, the eigenvalues are a non-empty list of value tokens (`VfTok`), the eigenvectors (if present) are `k ≥ 1`
    columns of `n` value tokens each -/
def EvGood (src : EvData) : Prop :=
  (∀ p ∈ src.strs, Trimmed p.2) ∧ (∀ p ∈ src.ints, Trimmed p.2 ∧ isIntTok p.2 = true) ∧
  (∀ p ∈ src.floats, Trimmed p.2 ∧ isFloatTok p.2 = true) ∧ src.evals ≠ [] ∧ (∀ e ∈ src.evals, VfTok e) ∧
  (match src.evecs with
   | none => True
   | some (n, k, cols) => cols ≠ [] ∧ cols.length = k ∧ ∀ c ∈ cols, c.length = n ∧ ∀ t ∈ c, VfTok t)

def evEmpty : EvData := { strs := [], ints := [], floats := [], evals := [], evecs := none }

/-- what is read back: the entries under the keys the format knows, in the writer's order -/
def evCanon (src : EvData) : EvData :=
  { strs := optE src.strs "Creator" ++ optE src.strs "File" ++ optE src.strs "User"
    ints := optE src.ints "Refine" ++ optE src.ints "Degree" ++ optE src.ints "Dimension" ++ optE src.ints "Elements" ++
      optE src.ints "DoF" ++ optE src.ints "NumEW" ++ optE src.ints "EulerChar" ++ optE src.ints "TimePre" ++
      optE src.ints "TimeCalcAB" ++ optE src.ints "TimeCalcEW"
    floats := optE src.floats "Area" ++ optE src.floats "Volume" ++ optE src.floats "BLength"
    evals := src.evals
    evecs := src.evecs }

theorem reads_writeEv (src : EvData) (h : EvGood src) : Reads (writeEv src) evEmpty (evCanon src) := by
  obtain ⟨hs, hi, hfl, hne, hev, hvec⟩ := h
  rw [writeEv_eq]
  have main := (reads_opt addStrs_nil hs (reads_strLine "Creator" (by decide)) evEmpty)
    |>.append (reads_opt addStrs_nil hs (reads_strLine "File" (by decide)) _)
    |>.append (reads_opt addStrs_nil hs (reads_strLine "User" (by decide)) _)
    |>.append (reads_opt addInts_nil hi (reads_intLine "Refine" (by decide)) _)
    |>.append (reads_opt addInts_nil hi (reads_intLine "Degree" (by decide)) _)
    |>.append (reads_opt addInts_nil hi (reads_intLine "Dimension" (by decide)) _)
    |>.append (reads_opt addInts_nil hi (reads_intLine "Elements" (by decide)) _)
    |>.append (reads_opt addInts_nil hi (reads_intLine "DoF" (by decide)) _)
    |>.append (reads_opt addInts_nil hi (reads_intLine "NumEW" (by decide)) _)
    |>.append (reads_blank _)
    |>.append (reads_opt addFloats_nil hfl (reads_floatLine "Area" (by decide)) _)
    |>.append (reads_opt addFloats_nil hfl (reads_floatLine "Volume" (by decide)) _)
    |>.append (reads_opt addFloats_nil hfl (reads_floatLine "BLength" (by decide)) _)
    |>.append (reads_opt addInts_nil hi (reads_intLine "EulerChar" (by decide)) _)
    |>.append (reads_blank _)
    |>.append (reads_opt addInts_nil hi reads_tPre _)
    |>.append (reads_opt addInts_nil hi reads_tAB _)
    |>.append (reads_opt addInts_nil hi reads_tEW _)
    |>.append (reads_total src _)
    |>.append (reads_blank _)
    |>.append ((reads_evals src.evals hne hev _).append (reads_blank _))
  exact main.append (reads_evecPart src.evecs hvec _ rfl)

/-- **`read_ev ∘ write_ev`** returns the written data: the same `strs` / `ints` / `floats` entries (the keys of the format,
    in the writer's order), the same eigenvalues and the same eigenvectors — for every shape `(n,k)`, `k ≥ 1`, including a
    single column (`{`, `(`, `)`, `}` all on one line) and `n = 1` -/
theorem ev_roundtrip (src : EvData) (h : EvGood src) (fuel : Nat) (hf : (writeEv src).length ≤ fuel) :
    readEv fuel (writeEv src) evEmpty = some (evCanon src) :=
  (reads_writeEv src h).run fuel hf

/-- if the data uses only the keys of the format, each once and in the writer's order (`evCanon src = src`), it is read
    back unchanged -/
theorem ev_roundtrip_canon (src : EvData) (h : EvGood src) (hc : evCanon src = src) (fuel : Nat)
    (hf : (writeEv src).length ≤ fuel) : readEv fuel (writeEv src) evEmpty = some src := by
  have := ev_roundtrip src h fuel hf
  rwa [hc] at this

theorem length_optL_le (line : String → String) (l : List (String × String)) (key : String) :
    (optL line l key).length ≤ 1 := by
  unfold optL; split <;> simp

/-- the fuel `read_ev` needs on a written file: at most 23 lines stand before the eigenvector block -/
theorem length_writeEv_le (d : EvData) : (writeEv d).length ≤ 23 + (evecPart d.evecs).length := by
  have ht : (totalPart d).length ≤ 1 := by unfold totalPart; split <;> simp
  simp only [writeEv_eq, List.length_append, List.length_cons, List.length_nil, optLine, optTLine]
  -- 23 = sixteen optional lines and the total line (one line or none each), three blank lines, three lines of eigenvalues
  grind [length_optL_le]

/-! ## decidability of the well-formedness predicates (through the character-list mirrors) and concrete instances

`decide` cannot evaluate core's `String.startsWith` / `splitOn` / `toNat!` / `trimAscii` (byte-level, well-founded
recursion), so `readVtk (writeVtk …)` cannot be evaluated *directly* by `decide` / `rfl`; the predicates below are decided
on `List Char` instead (`isFloatTok_eq`, `trimAscii_eq`, …) and the concrete results follow from the theorems. -/

instance (s : String) : Decidable (isFloatTok s = true) :=
  decidable_of_iff (isFloatTokL s.toList = true) (by rw [isFloatTok_eq])

instance (s : String) : Decidable (isIntTok s = true) :=
  decidable_of_iff (natL (stripSignL s.toList) = true) (by
    rw [← isIntTok_ofList, String.ofList_toList])

instance (s : String) : Decidable (Trimmed s) :=
  decidable_of_iff (trimL s.toList = s.toList) (by
    unfold Trimmed
    rw [trimAscii_eq]
    constructor
    · intro h; rw [h, String.ofList_toList]
    · intro h
      have := congrArg String.toList h
      rwa [String.toList_ofList] at this)

instance (s : String) : Decidable (GoodCoord s) := by unfold GoodCoord; infer_instance
instance (s : String) : Decidable (VfTok s) := by unfold VfTok; infer_instance
instance (k : Nat) (coords : List (List String)) (elems : List (List Nat)) : Decidable (GoodMesh k coords elems) := by
  unfold GoodMesh; infer_instance

instance (src : EvData) : Decidable (EvGood src) := by
  unfold EvGood
  rcases src.evecs with _ | ⟨n, k, cols⟩
  · infer_instance
  · infer_instance

instance (ev : Option (Nat × Nat × List (List String))) : Decidable (EvecsOk ev) := by
  unfold EvecsOk
  rcases ev with _ | ⟨n, k, cols⟩ <;> infer_instance

def exCoords : List (List String) :=
  [["0.5", "-1.25e-3", "1.0"], ["1.0", "0.0", "0.0"], ["0.0", "1.0", "0.0"], ["1.0", "1.0", "0.5"]]
def exElems : List (List Nat) := [[0, 1, 2], [1, 3, 2]]

theorem exCoords_good : ∀ row ∈ exCoords, row.length = 3 ∧ ∀ s ∈ row, GoodCoord s := by decide

theorem exMesh_good : GoodMesh 3 exCoords exElems := ⟨exCoords_good, by decide, by decide⟩

example : readVtk 3 (writeVtk 3 exCoords exElems) =
    .ok { coords := ["0.5", "-1.25e-3", "1.0", "1.0", "0.0", "0.0", "0.0", "1.0", "0.0", "1.0", "1.0", "0.5"],
          elems := [[0, 1, 2], [1, 3, 2]] } := vtk_roundtrip exMesh_good

example : writeVtk 3 exCoords exElems =
    ["# vtk DataFile Version 1.0", "vtk output", "ASCII", "DATASET POLYDATA", "POINTS 4 float",
     "0.5 -1.25e-3 1.0", "1.0 0.0 0.0", "0.0 1.0 0.0", "1.0 1.0 0.5", "POLYGONS 2 8", "3 0 1 2", "3 1 3 2"] := by decide

example : readVtk 4 (writeVtk 3 exCoords exElems) = .error .format := vtk_wrong_kind.1 exMesh_good
-- cuts after the third vertex line (8) and inside the element block (11)
example : ∃ e, readVtk 3 ((writeVtk 3 exCoords exElems).take 8) = .error e := vtk_truncation exMesh_good 8 (by decide)
example : ∃ e, readVtk 3 ((writeVtk 3 exCoords exElems).take 11) = .error e := vtk_truncation exMesh_good 11 (by decide)

example : readOff (["OFF", "4 2 0", "0.5 -1.25e-3 1.0", "1.0 0.0 0.0", "0.0 1.0 0.0", "1.0 1.0 0.5", "3 0 1 2", "3 1 3 2"]) =
    .ok { coords := exCoords.flatten, elems := exElems } := by
  have := off_spec exMesh_good
  have e : (["OFF", s!"{exCoords.length} {exElems.length} 0"] ++ exCoords.map (" ".intercalate) ++
      exElems.map (fun e => " ".intercalate ("3" :: e.map toString))) =
      ["OFF", "4 2 0", "0.5 -1.25e-3 1.0", "1.0 0.0 0.0", "0.0 1.0 0.0", "1.0 1.0 0.5", "3 0 1 2", "3 1 3 2"] := by decide
  rw [e] at this
  exact this

def exTet : List (List Nat) := [[0, 1, 2, 3]]
theorem exTet_good : GoodMesh 4 exCoords exTet := ⟨exCoords_good, by decide, by decide⟩

example : gmshFile exCoords exTet =
    ["$MeshFormat", "2.2 0 8", "$EndMeshFormat", "$Nodes", "4", "1 0.5 -1.25e-3 1.0", "2 1.0 0.0 0.0", "3 0.0 1.0 0.0",
     "4 1.0 1.0 0.5", "$EndNodes", "$Elements", "1", "1 4 2 0 1 1 2 3 4", "$EndElements"] := by decide
example : readGmsh (gmshFile exCoords exTet) = .ok { coords := exCoords.flatten, elems := [[0, 1, 2, 3]] } :=
  gmsh_spec exTet_good
example : readVtk 4 (writeVtk 4 exCoords exTet) = .ok { coords := exCoords.flatten, elems := exTet } :=
  vtk_roundtrip exTet_good

example : stripTris [0, 1, 2, 3, 4] = [[0, 1, 2], [2, 1, 3], [2, 3, 4]] := by decide

example : readVfunc (writeVfunc ["0.5", "-1.25e-3", "1.0"]) = some ["0.5", "-1.25e-3", "1.0"] :=
  vfunc_roundtrip _ (by decide) (by decide)
/-- a single value: `(0.5)` on one line -/
example : readVfunc (writeVfunc ["0.5"]) = some ["0.5"] := vfunc_roundtrip _ (by decide) (by decide)
example : writeVfunc ["0.5", "1.0"] = ["Solution:", "(0.5,1.0)"] := by decide

/-- `.ev` data with all kinds of fields; eigenvector shapes `(n,k)` = (1,1), (3,1), (1,3), (2,2) -/
def exEv (ev : Option (Nat × Nat × List (List String))) : EvData :=
  { strs := [("Creator", "LaPy"), ("File", "C:\\data\\my mesh.vtk")]
    ints := [("Refine", "0"), ("Degree", "1"), ("Dimension", "2"), ("Elements", "2"), ("DoF", "4"), ("NumEW", "2"),
      ("EulerChar", "-2"), ("TimePre", "1"), ("TimeCalcAB", "2"), ("TimeCalcEW", "3")]
    floats := [("Area", "1.5"), ("Volume", "0.0")]
    evals := ["0.0", "1.25e-3"]
    evecs := ev }

/-- the fields other than the eigenvectors are the same in all instances and are checked once -/
theorem exEv_good (ev : Option (Nat × Nat × List (List String))) (h : EvecsOk ev) :
    EvGood (exEv ev) :=
  have h0 : EvGood (exEv none) := by decide +kernel
  ⟨h0.1, h0.2.1, h0.2.2.1, h0.2.2.2.1, h0.2.2.2.2.1, h⟩

theorem exEv_goods : EvGood (exEv (some (1, 1, [["0.5"]]))) ∧ EvGood (exEv (some (3, 1, [["0.5", "1.0", "-2.0"]]))) ∧
    EvGood (exEv (some (1, 3, [["0.5"], ["1.0"], ["-2.0"]]))) ∧
    EvGood (exEv (some (2, 2, [["0.5", "1.0"], ["-2.0", "3e-2"]]))) :=
  ⟨exEv_good _ (by decide), exEv_good _ (by decide), exEv_good _ (by decide), exEv_good _ (by decide)⟩

example : EvGood (exEv none) := exEv_good none trivial
example : EvGood (exEv (some (1, 1, [["0.5"]]))) := exEv_goods.1
example : EvGood (exEv (some (3, 1, [["0.5", "1.0", "-2.0"]]))) := exEv_goods.2.1
example : EvGood (exEv (some (1, 3, [["0.5"], ["1.0"], ["-2.0"]]))) := exEv_goods.2.2.1
example : EvGood (exEv (some (2, 2, [["0.5", "1.0"], ["-2.0", "3e-2"]]))) := exEv_goods.2.2.2

theorem exEv_canon (ev : Option (Nat × Nat × List (List String))) : evCanon (exEv ev) = exEv ev := by
  unfold evCanon exEv
  dsimp only
  congr 1

/-- the written file (the `Time(total )` line, whose number comes from `String.toInt!`, is left out of the comparison) -/
example : (writeEv (exEv (some (3, 1, [["0.5", "1.0", "-2.0"]])))).take 16 ++
      (writeEv (exEv (some (3, 1, [["0.5", "1.0", "-2.0"]])))).drop 17 =
    [" Creator: LaPy", " File: C:\\data\\my mesh.vtk", " Refine: 0", " Degree: 1", " Dimension: 2", " Elements: 2",
     " DoF: 4", " NumEW: 2", "", " Area: 1.5", " Volume: 0.0", " EulerChar: -2", "", " Time(Pre) : 1",
     " Time(calcAB) : 2", " Time(calcEW) : 3", "", "Eigenvalues:", "{ 0.0 ; 1.25e-3 }", "",
     "Eigenvectors:", "sizes: 3 1", "", "{ (0.5,1.0,-2.0) }"] := by decide +kernel

example : readEv 100 (writeEv (exEv (some (3, 1, [["0.5", "1.0", "-2.0"]])))) evEmpty =
    some (exEv (some (3, 1, [["0.5", "1.0", "-2.0"]]))) :=
  ev_roundtrip_canon _ exEv_goods.2.1 (exEv_canon _) 100 (Nat.le_trans (length_writeEv_le _) (by decide))
example : readEv 100 (writeEv (exEv (some (1, 1, [["0.5"]])))) evEmpty = some (exEv (some (1, 1, [["0.5"]]))) :=
  ev_roundtrip_canon _ exEv_goods.1 (exEv_canon _) 100 (Nat.le_trans (length_writeEv_le _) (by decide))
example : readEv 100 (writeEv (exEv (some (1, 3, [["0.5"], ["1.0"], ["-2.0"]])))) evEmpty =
    some (exEv (some (1, 3, [["0.5"], ["1.0"], ["-2.0"]]))) :=
  ev_roundtrip_canon _ exEv_goods.2.2.1 (exEv_canon _) 100 (Nat.le_trans (length_writeEv_le _) (by decide))
example : readEv 100 (writeEv (exEv (some (2, 2, [["0.5", "1.0"], ["-2.0", "3e-2"]])))) evEmpty =
    some (exEv (some (2, 2, [["0.5", "1.0"], ["-2.0", "3e-2"]]))) :=
  ev_roundtrip_canon _ exEv_goods.2.2.2 (exEv_canon _) 100 (Nat.le_trans (length_writeEv_le _) (by decide))
example : (writeEv (exEv (some (2, 2, [["0.5", "1.0"], ["-2.0", "3e-2"]])))).drop 21 =
    ["Eigenvectors:", "sizes: 2 2", "", "{ (0.5,1.0) ;", "(-2.0,3e-2) }"] := by decide
example : readEv 100 (writeEv (exEv none)) evEmpty = some (exEv none) :=
  ev_roundtrip_canon _ (exEv_good none trivial) (exEv_canon _) 100 (Nat.le_trans (length_writeEv_le _) (by decide))

end LapyVerif.Props.C14
