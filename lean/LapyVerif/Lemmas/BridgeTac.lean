import LapyVerif.Lemmas.RealInst
import LapyVerif.Lemmas.V3Simp
/- `v3_flat` and `coo_entries`: the two abbreviations used wherever a vector or triplet-list equation is reduced to
   scalar goals (every file about vectors uses the first), and the one-element case of the assembly.
   Order of use: flatten the whole equation first (`v3_flat [defs, V3.ext'_iff]`), split what it leaves (`coo_entries`,
   `and_intros`): one `simp only` unfolds what the entries have in common once, and closes the entries that are
   literally equal -/
namespace LapyVerif

/-- split an equation between two literal triplet lists into one scalar goal per entry -/
macro "coo_entries" : tactic =>
  `(tactic| (simp only [List.cons.injEq, Prod.mk.injEq, and_true, true_and]; and_intros))

/-- one `simp only` with the coordinate lemmas of `V3`, the ℝ instances of the scalar classes, the numeral casts, and
    whatever definitions the caller wants unfolded in the same pass -/
macro "v3_flat" "[" ls:Lean.Parser.Tactic.simpLemma,* "]" : tactic =>
  `(tactic| simp only [V3.dot, V3.normSq, V3.sub_x, V3.sub_y, V3.sub_z, V3.add_x, V3.add_y, V3.add_z, V3.neg_x, V3.neg_y,
      V3.neg_z, V3.cross_x, V3.cross_y, V3.cross_z, V3.smul_x, V3.smul_y, V3.smul_z, V3.mk_x, V3.mk_y, V3.mk_z,
      sqrt_real, abs_real, exp_real, Nat.cast_ofNat, Nat.cast_one, Nat.cast_zero, $ls,*])

macro "v3_flat" : tactic => `(tactic| v3_flat [])

/-- the assembly over a mesh with a single element is that element's block -/
theorem flatten_map_zip_one {α β γ : Type} (a : α) (b : β) (f : α × β → List γ) :
    (([a].zip [b]).map f).flatten = f (a, b) := by
  simp

end LapyVerif
