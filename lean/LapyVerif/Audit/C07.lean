import LapyVerif.Props.C02
import LapyVerif.Props.C07b
import LapyVerif.Bridge.Fem
import LapyVerif.Bridge.Spectral2
import LapyVerif.Bridge.VertexMeasures
import LapyVerif.Bridge.SolverGlue
#print axioms LapyVerif.Coo.form_heatMat
#print axioms LapyVerif.Props.C07.heat_conservation
#print axioms LapyVerif.Props.C07.seedVec_sum
#print axioms LapyVerif.Props.C07.kernel_entry
#print axioms LapyVerif.Props.C07.kernel_symm
#print axioms LapyVerif.Props.C07.diagonal_eq_kernel
#print axioms LapyVerif.Props.C01.stiff_form_symm
#print axioms LapyVerif.Props.C01.stiff_const_zero
#print axioms LapyVerif.Props.C02.lumped_diagonal
#print axioms LapyVerif.Bridge.fem_tria_A
#print axioms LapyVerif.Bridge.fem_tria_BL
#print axioms LapyVerif.Bridge.fem_tet_A
#print axioms LapyVerif.Bridge.fem_tet_BL
#print axioms LapyVerif.Props.C07.anisoWeights_pos
#print axioms LapyVerif.Props.C07.solverAniso_mass
#print axioms LapyVerif.Props.C07.heat_conservation_aniso
#print axioms LapyVerif.Props.C17.stiffAniso_symm
#print axioms LapyVerif.Props.C17.stiffAniso_const_zero
#print axioms LapyVerif.Bridge.heat_kernel
#print axioms LapyVerif.Bridge.heat_kernel_scalar
#print axioms LapyVerif.Bridge.heat_diagonal
#print axioms LapyVerif.Bridge.misc_tetavg
#print axioms LapyVerif.Bridge.vm_avg
#print axioms LapyVerif.Bridge.glue_heat
#print axioms LapyVerif.Bridge.glue_heat_keys
#print axioms LapyVerif.Bridge.glue_heat_rhs
#print axioms LapyVerif.Bridge.glue_calls
#print axioms LapyVerif.Bridge.glue_calls_names
#print axioms LapyVerif.Bridge.census_FemTria_pcCount
#print axioms LapyVerif.Bridge.census_FemTriaMass_pcCount
#print axioms LapyVerif.Bridge.census_FemTriaAniso_pcCount
#print axioms LapyVerif.Bridge.census_FemTet_pcCount
#print axioms LapyVerif.Bridge.census_SolverGlue_pcCount
#print axioms LapyVerif.Bridge.census_HeatKernel_pcCount
#print axioms LapyVerif.Bridge.census_Misc_pcCount
#print axioms LapyVerif.Bridge.census_VertexMeasures_pcCount
#print axioms LapyVerif.Bridge.census_TransferTri_pcCount
#print axioms LapyVerif.Bridge.diffusion_traced_conservation
