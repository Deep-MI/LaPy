import LapyVerif.Props.C13
import LapyVerif.Bridge.Measures2
import LapyVerif.Bridge.Measures
import LapyVerif.Props.C13b
import LapyVerif.Bridge.VertexMeasures
/- axiom audit of C13 -/
#print axioms LapyVerif.Props.C13.heron_eq_cross
#print axioms LapyVerif.Props.C13.area_eq_sum
#print axioms LapyVerif.Props.C13.volume_open
#print axioms LapyVerif.Props.C13.volume_unoriented
#print axioms LapyVerif.Props.C13.volume_closed
#print axioms LapyVerif.Props.C13.volumeSum_flip
#print axioms LapyVerif.Props.C13.volumeSum_scale
#print axioms LapyVerif.Props.C13.triNormal_spec
#print axioms LapyVerif.Props.C13.weitzenboeck
#print axioms LapyVerif.Props.C13.quality_core
#print axioms LapyVerif.Props.C13.quality_range
#print axioms LapyVerif.Props.C13.triArea_similarity
#print axioms LapyVerif.Props.C13.heron_similarity
#print axioms LapyVerif.Props.C13.area_similarity
#print axioms LapyVerif.Props.C13.quality_similarity
#print axioms LapyVerif.rows_isIsometry
#print axioms LapyVerif.translate_isIsometry
#print axioms LapyVerif.scale_isSimilarity
#print axioms LapyVerif.Bridge.meas_areas
#print axioms LapyVerif.Bridge.meas_area
#print axioms LapyVerif.Bridge.meas_volume
#print axioms LapyVerif.Bridge.meas_normal
#print axioms LapyVerif.Bridge.meas_qualities
#print axioms LapyVerif.Bridge.meas_total
#print axioms LapyVerif.Lemmas.balanced_sum_zero
#print axioms LapyVerif.Lemmas.balanced_sum_zero_v3
#print axioms LapyVerif.Props.C13.dirKeys_arcBalanced
#print axioms LapyVerif.Props.C13.halfEdgeCount_symm
#print axioms LapyVerif.Props.C13.vector_area_zero
#print axioms LapyVerif.V3.eq_zero_of_forall_dot
#print axioms LapyVerif.Props.C13.volume_translation_inv
#print axioms LapyVerif.Props.C13.volume_translation_inv'
#print axioms LapyVerif.Bridge.meas_centroid
#print axioms LapyVerif.Props.C19.normalize_eq
#print axioms LapyVerif.Bridge.gen_normalized
#print axioms LapyVerif.Bridge.meas_normalized
#print axioms LapyVerif.Bridge.vm_vareas
#print axioms LapyVerif.Bridge.vm_avg
#print axioms LapyVerif.Bridge.acc0
#print axioms LapyVerif.Bridge.acc3
#print axioms LapyVerif.Bridge.vm_vnormal0
#print axioms LapyVerif.Bridge.vm_vnormal3
#print axioms LapyVerif.Bridge.vm_offset0
#print axioms LapyVerif.Bridge.census_Measures_pcCount
#print axioms LapyVerif.Bridge.census_VertexMeasures_pcCount
#print axioms LapyVerif.Bridge.census_TransferTri_pcCount
