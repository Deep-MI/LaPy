import LapyVerif.Model.Mesh
/-
  Model of the element kernels of `lapy/diffgeo.py`: `tria_compute_gradient`, `tria_compute_divergence`,
  `tria_compute_divergence2`, `tet_compute_gradient`, `tet_compute_divergence`.  For tetrahedra the sign of the signed volume is kept
  (`tetGradVol`) and applied to the face normals (`sgn` in `tetDiv1`), so both operators are independent of the
  element's orientation.
  Divergences are returned as the triplets `((i,0), value)` handed to `csc_matrix` (already scaled by the
  factor the code applies to the dense result), so the summed entry `Coo.entry · i 0` is `vfunc[i]`.
-/
namespace LapyVerif
namespace DiffGeo
open V3

variable {K : Type} [Zero K] [Add K] [Sub K] [Mul K] [Div K] [Neg K] [NatCast K] [HasSqrt K]
variable [LT K] [DecidableRel (α := K) (· < ·)]

/-- `np.sign` -/
def sgn (x : K) : K := if x < 0 then -((1 : Nat) : K) else if 0 < x then ((1 : Nat) : K) else 0

/-- `ln[ln < eps] = 1` -/
def guard1 (x : K) : K := if x < epsK then ((1 : Nat) : K) else x

/-! ### triangles -/

/-- un-normalised normal `n = np.cross(e2, -e1)` and its guarded length -/
def triNormalLen (v0 v1 v2 : V3 K) : V3 K × K :=
  let e2 := v1 - v0; let e1 := v0 - v2
  let n := cross e2 (-e1)
  (n, guard1 (sqrt (normSq n)))

def triGrad1 (v0 v1 v2 : V3 K) (f0 f1 f2 : K) : V3 K :=
  let e2 := v1 - v0; let e0 := v2 - v1; let e1 := v0 - v2
  let (n, ln) := triNormalLen v0 v1 v2
  let lni := ((1 : Nat) : K) / ln
  let nn := smul lni n
  let c := smul f0 e0 + smul f1 e1 + smul f2 e2
  smul lni (cross nn c)

def triGrad (vtx : Nat → V3 K) (ts : List Tri) (f : Nat → K) : List (V3 K) :=
  ts.map fun τ => triGrad1 (vtx τ.1) (vtx τ.2.1) (vtx τ.2.2) (f τ.1) (f τ.2.1) (f τ.2.2)

/-- the three values `x0 x1 x2` of `tria_compute_divergence` for one triangle (before the factor 0.5) -/
def triDiv1 (v0 v1 v2 : V3 K) (X : V3 K) : K × K × K :=
  let e2 := v1 - v0; let e0 := v2 - v1; let e1 := v0 - v2
  let (_, ln) := triNormalLen v0 v1 v2
  let cot0 := dot e2 (-e1) / ln
  let cot1 := dot e0 (-e2) / ln
  let cot2 := dot e1 (-e0) / ln
  let c0 := smul cot0 e0; let c1 := smul cot1 e1; let c2 := smul cot2 e2
  (dot (c2 - c1) X, dot (c0 - c2) X, dot (c1 - c0) X)

def half : K := ((1 : Nat) : K) / ((2 : Nat) : K)

def triDiv (vtx : Nat → V3 K) (ts : List Tri) (X : List (V3 K)) : Coo K :=
  List.flatten <| (ts.zip X).map fun (τ, x) =>
    let (x0, x1, x2) := triDiv1 (vtx τ.1) (vtx τ.2.1) (vtx τ.2.2) x
    [((τ.1, 0), half * x0), ((τ.2.1, 0), half * x1), ((τ.2.2, 0), half * x2)]

/-- `tria_compute_divergence2`: flux through the edge normals -/
def triDiv2_1 (v0 v1 v2 : V3 K) (X : V3 K) : K × K × K :=
  let e2 := v1 - v0; let e0 := v2 - v1; let e1 := v0 - v2
  let (n, ln) := triNormalLen v0 v1 v2
  let lni := ((1 : Nat) : K) / ln
  let nn := smul lni n
  (dot (cross e0 nn) X, dot (cross e1 nn) X, dot (cross e2 nn) X)

def triDiv2 (vtx : Nat → V3 K) (ts : List Tri) (X : List (V3 K)) : Coo K :=
  List.flatten <| (ts.zip X).map fun (τ, x) =>
    let (x0, x1, x2) := triDiv2_1 (vtx τ.1) (vtx τ.2.1) (vtx τ.2.2) x
    [((τ.1, 0), half * x0), ((τ.2.1, 0), half * x1), ((τ.2.2, 0), half * x2)]

/-! ### tetrahedra -/

variable [HasAbs K]

/-- `vol[np.abs(vol) < eps] = 1` on the signed `vol = e3·(e0×e2)` -/
def tetGradVol (v0 v1 v2 v3 : V3 K) : K :=
  let e0 := v1 - v0; let e2 := v0 - v2; let e3 := v3 - v0
  let vol := dot e3 (cross e0 e2)
  if HasAbs.abs vol < epsK then ((1 : Nat) : K) else vol

def tetGrad1 (v0 v1 v2 v3 : V3 K) (f0 f1 f2 f3 : K) : V3 K :=
  let e0 := v1 - v0; let e2 := v0 - v2; let e3 := v3 - v0; let e4 := v3 - v1; let e5 := v3 - v2
  let voli := ((1 : Nat) : K) / tetGradVol v0 v1 v2 v3
  let c1 := smul (f1 - f0) (cross e2 e5)
  let c2 := smul (f2 - f0) (cross e3 e4)
  let c3 := smul (f3 - f0) (cross (-e2) e0)
  smul voli (c1 + c2 + c3)

def tetGrad (vtx : Nat → V3 K) (ts : List Tet) (f : Nat → K) : List (V3 K) :=
  ts.map fun τ => tetGrad1 (vtx τ.1) (vtx τ.2.1) (vtx τ.2.2.1) (vtx τ.2.2.2) (f τ.1) (f τ.2.1) (f τ.2.2.1) (f τ.2.2.2)

/-- the four values `x0..x3` of `tet_compute_divergence` (normals flipped by the orientation sign) -/
def tetDiv1 (v0 v1 v2 v3 : V3 K) (X : V3 K) : K × K × K × K :=
  let e0 := v1 - v0; let e1 := v2 - v1; let e2 := v2 - v0; let e3 := v3 - v0; let e4 := v3 - v1
  let n0 := cross e1 e4; let n1 := cross e3 e2; let n2 := cross e0 e3; let n3 := cross e2 e0
  let s := sgn (dot e3 n3)
  (dot (smul s n0) X, dot (smul s n1) X, dot (smul s n2) X, dot (smul s n3) X)

def tetDiv (vtx : Nat → V3 K) (ts : List Tet) (X : List (V3 K)) : Coo K :=
  let c : K := -(((1 : Nat) : K) / ((6 : Nat) : K))
  List.flatten <| (ts.zip X).map fun (τ, x) =>
    let (x0, x1, x2, x3) := tetDiv1 (vtx τ.1) (vtx τ.2.1) (vtx τ.2.2.1) (vtx τ.2.2.2) x
    [((τ.1, 0), c * x0), ((τ.2.1, 0), c * x1), ((τ.2.2.1, 0), c * x2), ((τ.2.2.2, 0), c * x3)]

end DiffGeo
end LapyVerif

namespace LapyVerif.DiffGeo
/-- `compute_gradient` / `compute_divergence` dispatch on `type(geom).__name__`; anything else raises `ValueError` -/
def dispatchKind (typeName : String) : Except String String :=
  if typeName = "TriaMesh" then .ok "tri" else if typeName = "TetMesh" then .ok "tet" else .error "ValueError"
end LapyVerif.DiffGeo
