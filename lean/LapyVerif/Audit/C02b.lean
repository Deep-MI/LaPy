import LapyVerif.Props.C02b
/- axiom audit of C02b (moment formula = iterated integral) -/
#print axioms LapyVerif.Props.C02.integral_polynomial
#print axioms LapyVerif.Props.C02.integral_triangle
#print axioms LapyVerif.Props.C02.tri_double_integral
#print axioms LapyVerif.Props.C02.tri_moments
#print axioms LapyVerif.Props.C02.tri_measure
#print axioms LapyVerif.Props.C02.triL2_eq_integral
#print axioms LapyVerif.Props.C02.mass_form_integral
#print axioms LapyVerif.Props.C02.integral_simplex_mid
#print axioms LapyVerif.Props.C02.integral_bernstein4
#print axioms LapyVerif.Props.C02.tet_mid
#print axioms LapyVerif.Props.C02.tet_triple_integral
#print axioms LapyVerif.Props.C02.tetL2_eq_integral
#print axioms LapyVerif.Props.C02.tet_moments
#print axioms LapyVerif.Props.C02.tet_measure
#print axioms LapyVerif.Props.C02.mass_form_integral_tet
#print axioms LapyVerif.Props.C02.ex_nonDegenTri
