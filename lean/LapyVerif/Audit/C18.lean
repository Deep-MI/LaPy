import LapyVerif.Props.C18
import LapyVerif.Bridge.Spectral2
/- axiom audit of C18 -/
#print axioms LapyVerif.Props.C18.invStereo_unit
#print axioms LapyVerif.Props.C18.invStereoSouth_unit
#print axioms LapyVerif.Props.C18.stereo_invStereo
#print axioms LapyVerif.Props.C18.invStereo_stereo
#print axioms LapyVerif.Props.C18.south_pair
#print axioms LapyVerif.Props.C18.south_mirror
#print axioms LapyVerif.Props.C18.mobius_unit
#print axioms LapyVerif.Props.C18.toC_cdiv
#print axioms LapyVerif.Props.C18.mobius_cross_ratio_C
#print axioms LapyVerif.Props.C18.mobius_cross_ratio
#print axioms LapyVerif.Props.C18.ddx_affine
#print axioms LapyVerif.Props.C18.ddy_affine
#print axioms LapyVerif.Props.C18.beltrami1_eq
#print axioms LapyVerif.Props.C18.beltrami1_affine
#print axioms LapyVerif.Props.C18.beltrami_affine
#print axioms LapyVerif.Props.C18.lbsBlock_shape
#print axioms LapyVerif.Props.C18.lbs_block_symm
#print axioms LapyVerif.Props.C18.lbs_block_entry_symm
#print axioms LapyVerif.Props.C18.lbs_block_const
#print axioms LapyVerif.Props.C18.lbs_block_rowsum
#print axioms LapyVerif.Props.C18.lbsMatrix_symm
#print axioms LapyVerif.Props.C18.lbsMatrix_rowsum
#print axioms LapyVerif.Props.C18.lbsEliminate_row
#print axioms LapyVerif.Props.C18.lbsEliminate_entries
#print axioms LapyVerif.Props.C18.lbsRhs_landmark
#print axioms LapyVerif.Props.C18.lbs_eliminate_spec
#print axioms LapyVerif.Props.C18.eulerGuard_spec
#print axioms LapyVerif.Props.C18.fixnum_spec
#print axioms LapyVerif.Props.C18.fixnum_eq
#print axioms LapyVerif.Bridge.misc_invstereo
#print axioms LapyVerif.Bridge.census_HeatKernel_pcCount
#print axioms LapyVerif.Bridge.census_Misc_pcCount
