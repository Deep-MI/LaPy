import Mathlib.Tactic.Linarith
import LapyVerif.Lemmas.FemTri
import LapyVerif.Lemmas.Assembly
import LapyVerif.Model.Curvature
/-
  C17 — curvature post-processing returns an ordered, oriented principal frame; the per-triangle directions are an
  orthonormal frame of the triangle plane; the anisotropic stiffness matrix built from such a frame is a symmetric,
  positive semi-definite form dominated by the isotropic one, and equals it for weights 1.
  Models: `Curvature.post`, `Curvature.triaDirs` (`Model/Curvature.lean`), `Fem.stiffTriaAniso` (`Model/Fem.lean`).
-/
namespace LapyVerif.Props.C17
open V3 Curvature
open LapyVerif.Spec (edgeComb)

/-! ### 1. the stable three-element argsort -/

/-- closed form of the insertion sort -/
theorem argsort3_eq (k0 k1 k2 : ℝ) : argsort3 k0 k1 k2 =
    if k1 < k0 then
      (if k2 < k1 then (2, 1, 0) else if k2 < k0 then (1, 2, 0) else (1, 0, 2))
    else
      (if k2 < k0 then (2, 0, 1) else if k2 < k1 then (0, 2, 1) else (0, 1, 2)) := by
  by_cases h10 : k1 < k0 <;> by_cases h20 : k2 < k0 <;> by_cases h21 : k2 < k1 <;>
    simp [argsort3, argsort3.go, h10, h20, h21]

/-- **`argsort3` returns a permutation of `(0,1,2)` (three distinct indices below 3) along which the keys ascend** -/
theorem argsort3_spec (k : Nat → ℝ) :
    let r := argsort3 (k 0) (k 1) (k 2)
    r.1 < 3 ∧ r.2.1 < 3 ∧ r.2.2 < 3 ∧ r.1 ≠ r.2.1 ∧ r.2.1 ≠ r.2.2 ∧ r.1 ≠ r.2.2 ∧
    k r.1 ≤ k r.2.1 ∧ k r.2.1 ≤ k r.2.2 := by
  intro r
  simp only [r, argsort3_eq]
  split_ifs <;> exact ⟨by decide, by decide, by decide, by decide, by decide, by decide, by linarith, by linarith⟩

/-- three equal keys keep their input order (the all-equal case of stability) -/
theorem argsort3_stable (c : ℝ) : argsort3 c c c = (0, 1, 2) := by
  rw [argsort3_eq]; simp

/-! ### 2. the frame returned by `Curvature.post` -/

noncomputable def alignKey (evec : Nat → V3 ℝ) (vn : V3 ℝ) (j : Nat) : ℝ := -|dot (evec j) vn|

/-- the argsort of the alignment keys: `i0` = best aligned with the vertex normal -/
noncomputable def alignIdx (evec : Nat → V3 ℝ) (vn : V3 ℝ) : Nat × Nat × Nat :=
  argsort3 (alignKey evec vn 0) (alignKey evec vn 1) (alignKey evec vn 2)

noncomputable def tangentIdx (ev : Nat → ℝ) (i1 i2 : Nat) : Nat × Nat := if ev i2 < ev i1 then (i2, i1) else (i1, i2)

theorem tangentIdx_cases (ev : Nat → ℝ) (i1 i2 : Nat) :
    (tangentIdx ev i1 i2 = (i1, i2) ∨ tangentIdx ev i1 i2 = (i2, i1)) ∧
      ev (tangentIdx ev i1 i2).1 ≤ ev (tangentIdx ev i1 i2).2 := by
  unfold tangentIdx
  split
  · next h => exact ⟨Or.inr rfl, h.le⟩
  · next h => exact ⟨Or.inl rfl, not_lt.mp h⟩

/-- the frame of `post` in terms of the aligned index `i0` and the tangent indices `j1`, `j2` ordered by eigenvalue:
    the direction of minimal curvature is the eigenvector of the LARGER eigenvalue -/
noncomputable def postIdx (ev : Nat → ℝ) (evec : Nat → V3 ℝ) (vn : V3 ℝ) (i0 j1 j2 : Nat) : Frame ℝ :=
  let normal := smul (sgn (dot (evec i0) vn)) (evec i0)
  { umin := evec j2
    umax := if dot (cross (evec j2) (evec j1)) normal < 0 then -evec j1 else evec j1
    cmin := ev j1, cmax := ev j2
    cmean := (ev j1 + ev j2) / ((2 : Nat) : ℝ)
    cgauss := ev j1 * ev j2
    normal := normal }

theorem post_eq (ev : Nat → ℝ) (evec : Nat → V3 ℝ) (vn : V3 ℝ) :
    post ev evec vn = postIdx ev evec vn (alignIdx evec vn).1
      (tangentIdx ev (alignIdx evec vn).2.1 (alignIdx evec vn).2.2).1
      (tangentIdx ev (alignIdx evec vn).2.1 (alignIdx evec vn).2.2).2 := by
  unfold post postIdx tangentIdx
  simp only [abs_real]
  -- `cmean` and `cgauss` are computed before the swap and are symmetric in the two eigenvalues, so the swap does not
  -- reach them; everything else is exchanged by it
  by_cases h : ev (alignIdx evec vn).2.2 < ev (alignIdx evec vn).2.1
  · simp only [alignIdx, alignKey] at h ⊢
    simp [h, add_comm, mul_comm]
  · simp only [alignIdx, alignKey] at h ⊢
    simp [h]

/-- the contract of the external symmetric eigen-solver: the three returned eigenvectors are orthonormal -/
def Orthonormal3 (evec : Nat → V3 ℝ) : Prop :=
  ∀ i j, i < 3 → j < 3 → dot (evec i) (evec j) = if i = j then 1 else 0

/-- `u`, `w`, `n` are an orthonormal triple (in the uses: the two tangent eigenvectors and the aligned one) -/
structure ON3 (u w n : V3 ℝ) : Prop where
  uu : dot u u = 1
  ww : dot w w = 1
  nn : dot n n = 1
  uw : dot u w = 0
  un : dot u n = 0
  wn : dot w n = 0

theorem ON3.swap {u w n : V3 ℝ} (h : ON3 u w n) : ON3 w u n :=
  ⟨h.ww, h.uu, h.nn, by rw [dot_comm]; exact h.uw, h.wn, h.un⟩

theorem abs_eq_one_of_mul_self {x : ℝ} (h : x * x = 1) : |x| = 1 :=
  (abs_eq zero_le_one).mpr (mul_self_eq_one_iff.mp h)

theorem ON3.det_abs {u w n : V3 ℝ} (h : ON3 u w n) : |dot (cross u w) n| = 1 := by
  apply abs_eq_one_of_mul_self
  rw [dot_comm (cross u w) n, triple_sq_orth h.uu h.ww h.uw n, h.nn, h.un, h.wn]
  ring

/-- the indices come in the order of the alignment sort (`i0` = the aligned one first), the triple in the order
    `(tangent, tangent, aligned)` in which `post` uses the eigenvectors: `umin := evec i2`, `umax := evec i1` -/
theorem orthonormal3_ON3 {evec : Nat → V3 ℝ} (h : Orthonormal3 evec) {i0 i1 i2 : Nat} (h0 : i0 < 3) (h1 : i1 < 3)
    (h2 : i2 < 3) (d01 : i0 ≠ i1) (d12 : i1 ≠ i2) (d02 : i0 ≠ i2) : ON3 (evec i2) (evec i1) (evec i0) :=
  ⟨by rw [h i2 i2 h2 h2, if_pos rfl], by rw [h i1 i1 h1 h1, if_pos rfl], by rw [h i0 i0 h0 h0, if_pos rfl],
   by rw [h i2 i1 h2 h1, if_neg (Ne.symm d12)], by rw [h i2 i0 h2 h0, if_neg (Ne.symm d02)],
   by rw [h i1 i0 h1 h0, if_neg (Ne.symm d01)]⟩

theorem sgn_mul_self (x : ℝ) : sgn x * x = |x| := by
  rcases lt_trichotomy x 0 with h | rfl | h
  · simp [sgn, h, abs_of_neg h]
  · simp [sgn]
  · simp [sgn, h, h.not_gt, abs_of_pos h]

theorem sgn_sq {x : ℝ} (hx : x ≠ 0) : sgn x * sgn x = 1 := by
  rcases lt_or_gt_of_ne hx with h | h
  · simp [sgn, h]
  · simp [sgn, h, h.not_gt]

theorem sgn_zero : sgn (0 : ℝ) = 0 := by simp [sgn]

/-- the orientation step of `post`, for any orthonormal triple and any factor `s` in front of the normal -/
theorem orient_core {u w n : V3 ℝ} (h : ON3 u w n) (s : ℝ) :
    let w' := if dot (cross u w) (smul s n) < 0 then -w else w
    dot w' w' = 1 ∧ dot u w' = 0 ∧ dot w' n = 0 ∧ dot (cross u w') (smul s n) = |s| := by
  intro w'
  have hd : dot (cross u w) (smul s n) = s * dot (cross u w) n := dot_smul_right _ _ _
  have ht := h.det_abs
  by_cases hneg : dot (cross u w) (smul s n) < 0
  · have hw' : w' = -w := if_pos hneg
    rw [hw']
    refine ⟨by rw [dot_neg_left, dot_neg_right, neg_neg, h.ww], by rw [dot_neg_right, h.uw, neg_zero],
      by rw [dot_neg_left, h.wn, neg_zero], ?_⟩
    rw [cross_neg_right, dot_neg_left, ← abs_of_neg hneg, hd, abs_mul, ht, mul_one]
  · have hw' : w' = w := if_neg hneg
    rw [hw']
    refine ⟨h.ww, h.uw, h.wn, ?_⟩
    rw [← abs_of_nonneg (not_lt.mp hneg), hd, abs_mul, ht, mul_one]

theorem align_ON3 {evec : Nat → V3 ℝ} (hon : Orthonormal3 evec) (vn : V3 ℝ) :
    ON3 (evec (alignIdx evec vn).2.2) (evec (alignIdx evec vn).2.1) (evec (alignIdx evec vn).1) := by
  obtain ⟨h0, h1, h2, d01, d12, d02, _⟩ := argsort3_spec (alignKey evec vn)
  exact orthonormal3_ON3 hon h0 h1 h2 d01 d12 d02

/-- everything `post_spec` proves about the frame `F` that `post` returns, in terms of the aligned index `i0` and the
    tangent indices `j` ordered by eigenvalue -/
structure PostSpec (ev : Nat → ℝ) (evec : Nat → V3 ℝ) (vn : V3 ℝ) (F : Frame ℝ) (i0 : Nat) (j : Nat × Nat) : Prop where
  le : F.cmin ≤ F.cmax
  mean : F.cmean = (F.cmin + F.cmax) / 2
  gauss : F.cgauss = F.cmin * F.cmax
  cmin : F.cmin = ev j.1
  cmax : F.cmax = ev j.2
  umin : F.umin = evec j.2
  umax : F.umax = evec j.1 ∨ F.umax = -evec j.1
  umin_unit : dot F.umin F.umin = 1
  umax_unit : dot F.umax F.umax = 1
  umin_umax : dot F.umin F.umax = 0
  umin_n0 : dot F.umin (evec i0) = 0
  umax_n0 : dot F.umax (evec i0) = 0
  normal : F.normal = smul (sgn (dot (evec i0) vn)) (evec i0)
  normal_vn : dot F.normal vn = |dot (evec i0) vn|
  triple : dot (cross F.umin F.umax) F.normal = |sgn (dot (evec i0) vn)|

theorem post_spec (ev : Nat → ℝ) (evec : Nat → V3 ℝ) (vn : V3 ℝ) (hon : Orthonormal3 evec) :
    PostSpec ev evec vn (post ev evec vn) (alignIdx evec vn).1
      (tangentIdx ev (alignIdx evec vn).2.1 (alignIdx evec vn).2.2) := by
  obtain ⟨hj, hle⟩ := tangentIdx_cases ev (alignIdx evec vn).2.1 (alignIdx evec vn).2.2
  rw [post_eq]
  generalize tangentIdx ev _ _ = j at hj hle ⊢
  -- whichever way round, the tangent pair and the aligned eigenvector are orthonormal
  have h : ON3 (evec j.2) (evec j.1) (evec (alignIdx evec vn).1) := by
    rcases hj with rfl | rfl
    · exact align_ON3 hon vn
    · exact (align_ON3 hon vn).swap
  generalize (alignIdx evec vn).1 = i0 at h ⊢
  obtain ⟨o1, o2, o3, o4⟩ := orient_core h (sgn (dot (evec i0) vn))
  exact {
    le := hle
    mean := by simp only [postIdx]; push_cast; ring
    gauss := rfl, cmin := rfl, cmax := rfl, umin := rfl
    umax := (ite_eq_or_eq _ _ _).symm
    umin_unit := h.uu, umax_unit := o1, umin_umax := o2, umin_n0 := h.un, umax_n0 := o3
    normal := rfl
    normal_vn := by simp only [postIdx]; rw [dot_smul_left, sgn_mul_self]
    triple := o4 }

theorem align_best (evec : Nat → V3 ℝ) (vn : V3 ℝ) (j : Nat) (hj : j < 3) :
    |dot (evec j) vn| ≤ |dot (evec (alignIdx evec vn).1) vn| := by
  obtain ⟨b0, b1, b2, d01, d12, d02, h1, h2⟩ := argsort3_spec (alignKey evec vn)
  unfold alignIdx
  generalize argsort3 (alignKey evec vn 0) (alignKey evec vn 1) (alignKey evec vn 2) = r at *
  -- `j` is one of the three indices, and the first of them carries the smallest key `−|e·vn|`
  obtain rfl | rfl | rfl : j = r.1 ∨ j = r.2.1 ∨ j = r.2.2 := by omega
  · exact le_rfl
  · exact neg_le_neg_iff.mp h1
  · exact neg_le_neg_iff.mp (h1.trans h2)

/-- **the frame returned by `Curvature.post`**: ordered principal curvatures, symmetric functions, an orthonormal
    tangent pair orthogonal to the selected eigenvector `n₀ = evec i0` (the best aligned with `vn`), the normal
    `sgn(n₀·vn) n₀`, never pointing against `vn`, and a non-negative triple product -/
theorem frame_post (ev : Nat → ℝ) (evec : Nat → V3 ℝ) (vn : V3 ℝ) (hon : Orthonormal3 evec) :
    let F := post ev evec vn
    let n0 := evec (alignIdx evec vn).1
    F.cmin ≤ F.cmax ∧ F.cmean = (F.cmin + F.cmax) / 2 ∧ F.cgauss = F.cmin * F.cmax ∧
    dot F.umin F.umin = 1 ∧ dot F.umax F.umax = 1 ∧ dot F.umin F.umax = 0 ∧
    dot F.umin n0 = 0 ∧ dot F.umax n0 = 0 ∧
    F.normal = smul (sgn (dot n0 vn)) n0 ∧
    (∀ j, j < 3 → |dot (evec j) vn| ≤ |dot n0 vn|) ∧
    dot F.normal vn = |dot n0 vn| ∧ 0 ≤ dot F.normal vn ∧
    0 ≤ dot (cross F.umin F.umax) F.normal := by
  intro F n0
  have p := post_spec ev evec vn hon
  exact ⟨p.le, p.mean, p.gauss, p.umin_unit, p.umax_unit, p.umin_umax, p.umin_n0, p.umax_n0, p.normal, align_best evec vn,
    p.normal_vn, by rw [p.normal_vn]; exact abs_nonneg _, by rw [p.triple]; exact abs_nonneg _⟩

/-- which eigenvalue goes with which direction: `umin` is the eigenvector of `cmax` and `umax` (up to sign) that of
    `cmin` — the code pairs them crosswise (for the curvature tensor the direction of minimal curvature is the
    eigenvector of the larger eigenvalue) -/
theorem frame_post_pairing (ev : Nat → ℝ) (evec : Nat → V3 ℝ) (vn : V3 ℝ) (hon : Orthonormal3 evec) :
    let F := post ev evec vn
    ∃ j1 j2, j1 < 3 ∧ j2 < 3 ∧ j1 ≠ j2 ∧ j1 ≠ (alignIdx evec vn).1 ∧ j2 ≠ (alignIdx evec vn).1 ∧
      F.cmin = ev j1 ∧ F.cmax = ev j2 ∧ F.umin = evec j2 ∧ (F.umax = evec j1 ∨ F.umax = -evec j1) := by
  intro F
  obtain ⟨h0, h1, h2, d01, d12, d02, _⟩ := argsort3_spec (alignKey evec vn)
  have p := post_spec ev evec vn hon
  rcases (tangentIdx_cases ev (alignIdx evec vn).2.1 (alignIdx evec vn).2.2).1 with hj | hj <;> rw [hj] at p
  · exact ⟨_, _, h1, h2, d12, Ne.symm d01, Ne.symm d02, p.cmin, p.cmax, p.umin, p.umax⟩
  · exact ⟨_, _, h2, h1, Ne.symm d12, Ne.symm d02, Ne.symm d01, p.cmin, p.cmax, p.umin, p.umax⟩

/-- **generic case `n₀·vn ≠ 0`: a right-handed orthonormal frame whose normal points to the side of `vn`** -/
theorem frame_post_oriented (ev : Nat → ℝ) (evec : Nat → V3 ℝ) (vn : V3 ℝ) (hon : Orthonormal3 evec)
    (hne : dot (evec (alignIdx evec vn).1) vn ≠ 0) :
    let F := post ev evec vn
    dot F.normal F.normal = 1 ∧ dot F.umin F.normal = 0 ∧ dot F.umax F.normal = 0 ∧ 0 < dot F.normal vn ∧
    dot (cross F.umin F.umax) F.normal = 1 := by
  intro F
  have p := post_spec ev evec vn hon
  refine ⟨?_, ?_, ?_, ?_, ?_⟩
  · rw [p.normal, dot_smul_left, dot_smul_right, ← mul_assoc, sgn_sq hne, (align_ON3 hon vn).nn, mul_one]
  · rw [p.normal, dot_smul_right, p.umin_n0, mul_zero]
  · rw [p.normal, dot_smul_right, p.umax_n0, mul_zero]
  · rw [p.normal_vn]; exact abs_pos.mpr hne
  · rw [p.triple, abs_eq_one_of_mul_self (sgn_sq hne)]

/-- **degenerate case `n₀·vn = 0`**: this happens exactly when the vertex normal is the zero vector; then the returned
    "normal" is the zero vector (not a unit vector) and the handedness test is void (triple product 0) -/
theorem frame_post_degenerate (ev : Nat → ℝ) (evec : Nat → V3 ℝ) (vn : V3 ℝ) (hon : Orthonormal3 evec) :
    (dot (evec (alignIdx evec vn).1) vn = 0 ↔ vn = ⟨0, 0, 0⟩) ∧
    (dot (evec (alignIdx evec vn).1) vn = 0 →
      (post ev evec vn).normal = ⟨0, 0, 0⟩ ∧
      dot (cross (post ev evec vn).umin (post ev evec vn).umax) (post ev evec vn).normal = 0) := by
  have p := post_spec ev evec vn hon
  refine ⟨⟨fun h0 => ?_, fun hv => ?_⟩, fun h0 => ⟨?_, ?_⟩⟩
  · have hz : ∀ j, j < 3 → dot vn (evec j) = 0 := by
      intro j hj
      have := align_best evec vn j hj
      rw [h0, abs_zero] at this
      rw [dot_comm]; exact abs_eq_zero.mp (le_antisymm this (abs_nonneg _))
    have hdet : dot (evec 0) (cross (evec 1) (evec 2)) ≠ 0 := fun hc => by
      have := (orthonormal3_ON3 hon (i0 := 0) (i1 := 2) (i2 := 1) (by omega) (by omega) (by omega) (by omega) (by omega)
        (by omega)).det_abs
      rw [dot_comm, hc, abs_zero] at this
      exact zero_ne_one this
    exact eq_zero_of_orth hdet (hz 0 (by omega)) (hz 1 (by omega)) (hz 2 (by omega))
  · rw [hv, dot_zero_right]
  · rw [p.normal, h0, sgn_zero]; exact V3.zero_smul _
  · rw [p.triple, h0, sgn_zero, abs_zero]

/-! ### 3. the per-triangle directions of `curvature_tria` -/

/-- the threshold `1e-8` of `np.maximum(·, 1e-8)` -/
noncomputable def e8 : ℝ := 1 / 100000000

theorem e8_pos : 0 < e8 := by unfold e8; norm_num

theorem floor8_of_ge {x : ℝ} (h : ¬ x < e8) : floor8 x = x := by
  have : ¬ x < ((1 : Nat) : ℝ) / ((100000000 : Nat) : ℝ) := by
    simpa [e8] using h
  simp only [floor8, if_neg this]

/-- unit normal of the triangle as computed by `triaDirs` when the floor is inactive -/
noncomputable def unitNormal (v0 v1 v2 : V3 ℝ) : V3 ℝ :=
  let n := cross (v1 - v0) (v2 - v0)
  ⟨n.x / Real.sqrt (normSq n), n.y / Real.sqrt (normSq n), n.z / Real.sqrt (normSq n)⟩

noncomputable def inPlane (v0 v1 v2 t : V3 ℝ) : V3 ℝ := t - smul (dot (unitNormal v0 v1 v2) t) (unitNormal v0 v1 v2)

/-- **the two directions of `curvature_tria` are an orthonormal frame of the triangle plane**, whenever neither
    `np.maximum(·, 1e-8)` is active (triangle not degenerate, pooled direction not normal to the triangle) -/
theorem curvTria_frame (v0 v1 v2 tumin : V3 ℝ)
    (hn : ¬ Real.sqrt (normSq (cross (v1 - v0) (v2 - v0))) < e8)
    (hp : ¬ Real.sqrt (normSq (inPlane v0 v1 v2 tumin)) < e8) :
    let u := triaDirs v0 v1 v2 tumin
    let n := cross (v1 - v0) (v2 - v0)
    dot u.1 u.1 = 1 ∧ dot u.2 u.2 = 1 ∧ dot u.1 u.2 = 0 ∧ dot u.1 n = 0 ∧ dot u.2 n = 0 ∧
    u.2 = cross (unitNormal v0 v1 v2) u.1 ∧
    u.1 = smul (1 / Real.sqrt (normSq (inPlane v0 v1 v2 tumin))) (inPlane v0 v1 v2 tumin) := by
  intro u n
  have hLn : 0 < Real.sqrt (normSq n) := lt_of_lt_of_le e8_pos (not_lt.mp hn)
  have hLp : 0 < Real.sqrt (normSq (inPlane v0 v1 v2 tumin)) := lt_of_lt_of_le e8_pos (not_lt.mp hp)
  have htn : unitNormal v0 v1 v2 = smul (1 / Real.sqrt (normSq (cross (v1 - v0) (v2 - v0)))) (cross (v1 - v0) (v2 - v0)) :=
    mk_div _ _
  have hu : u = (smul (1 / Real.sqrt (normSq (inPlane v0 v1 v2 tumin))) (inPlane v0 v1 v2 tumin),
      cross (unitNormal v0 v1 v2) (smul (1 / Real.sqrt (normSq (inPlane v0 v1 v2 tumin))) (inPlane v0 v1 v2 tumin))) := by
    simp only [u, triaDirs, sqrt_real, floor8_of_ge hn, mk_div]
    rw [← htn, ← inPlane, floor8_of_ge hp]
  set tn := unitNormal v0 v1 v2
  set p := inPlane v0 v1 v2 tumin with hpdef
  set u1 : V3 ℝ := smul (1 / Real.sqrt (normSq p)) p
  have tn_unit : dot tn tn = 1 := by rw [htn]; exact normSq_normalize (Real.sqrt_pos.mp hLn)
  have n_of_tn : ∀ x, dot x tn = 0 → dot x n = 0 := fun x h => by
    rw [htn, dot_smul_right] at h
    exact (mul_eq_zero.mp h).resolve_left (one_div_ne_zero hLn.ne')
  have p_tn : dot p tn = 0 := by
    rw [hpdef, inPlane, dot_sub_left, dot_smul_left, tn_unit, dot_comm tumin tn, mul_one, sub_self]
  have u1_unit : dot u1 u1 = 1 := normSq_normalize (Real.sqrt_pos.mp hLp)
  have u1_tn : dot u1 tn = 0 := by rw [dot_smul_left, p_tn, mul_zero]
  have u2_unit : dot (cross tn u1) (cross tn u1) = 1 := by
    have := normSq_cross tn u1
    simp only [normSq_eq_dot] at this
    rw [this, tn_unit, u1_unit, dot_comm tn u1, u1_tn]; ring
  rw [hu]
  exact ⟨u1_unit, u2_unit, dot_self_cross_right tn u1, n_of_tn _ u1_tn, n_of_tn _ (dot_cross_self_left tn u1), rfl, rfl⟩

/-! ### 4. the anisotropic stiffness matrix -/

noncomputable def anisoBlock (v1 v2 v3 : V3 ℝ) (τ : Tri) (u1 u2 : V3 ℝ) (d0 d1 vol : ℝ) : Coo ℝ :=
  Fem.triBlockA τ (Fem.anisoDot u1 u2 d0 d1 (v3 - v2) (v1 - v3) / vol) (Fem.anisoDot u1 u2 d0 d1 (v1 - v3) (v2 - v1) / vol)
    (Fem.anisoDot u1 u2 d0 d1 (v2 - v1) (v3 - v2) / vol)

/-- the isotropic block of one triangle (`_fem_tria`) -/
noncomputable def isoBlock (v1 v2 v3 : V3 ℝ) (τ : Tri) (vol : ℝ) : Coo ℝ :=
  Fem.triBlockA τ (Fem.triA12 v1 v2 v3 vol) (Fem.triA23 v1 v2 v3 vol) (Fem.triA31 v1 v2 v3 vol)

/-- **`f·A_τ·g = (d0 (u1·F)(u1·G) + d1 (u2·F)(u2·G)) / vol`** — pure algebra, for any `vol` -/
theorem aniso_local_form (v1 v2 v3 : V3 ℝ) (t1 t2 t3 : Nat) (u1 u2 : V3 ℝ) (d0 d1 vol : ℝ) (f g : Nat → ℝ) :
    Coo.form (anisoBlock v1 v2 v3 (t1, t2, t3) u1 u2 d0 d1 vol) f g =
      (d0 * (dot u1 (edgeComb v1 v2 v3 (f t1) (f t2) (f t3)) * dot u1 (edgeComb v1 v2 v3 (g t1) (g t2) (g t3))) +
       d1 * (dot u2 (edgeComb v1 v2 v3 (f t1) (f t2) (f t3)) * dot u2 (edgeComb v1 v2 v3 (g t1) (g t2) (g t3)))) / vol := by
  rw [anisoBlock, FemTri.triBlockA_form]
  simp only [Spec.dot_edgeComb, Fem.anisoDot]
  -- as in `FemTri.iso_local_form`: the sides are `b − a`, `−b`, `a`; the atoms are the four products of `u1`, `u2` with `a`, `b`
  rw [sub_eq_sub_sub_sub v1 v2 v3, ← V3.neg_sub v3 v1]
  generalize v2 - v1 = a
  generalize v3 - v1 = b
  simp only [dot_sub_right, dot_neg_right]
  ring

theorem aniso_local_symm (v1 v2 v3 : V3 ℝ) (t1 t2 t3 : Nat) (u1 u2 : V3 ℝ) (d0 d1 vol : ℝ) (f g : Nat → ℝ) :
    Coo.form (anisoBlock v1 v2 v3 (t1, t2, t3) u1 u2 d0 d1 vol) f g =
      Coo.form (anisoBlock v1 v2 v3 (t1, t2, t3) u1 u2 d0 d1 vol) g f := by
  rw [aniso_local_form, aniso_local_form]; ring

theorem aniso_const_zero (v1 v2 v3 : V3 ℝ) (t1 t2 t3 : Nat) (u1 u2 : V3 ℝ) (d0 d1 vol : ℝ) (f : Nat → ℝ) (c : ℝ) :
    Coo.form (anisoBlock v1 v2 v3 (t1, t2, t3) u1 u2 d0 d1 vol) f (fun _ => c) = 0 := by
  rw [aniso_local_form, Spec.edgeComb_const, dot_zero_right, dot_zero_right, mul_zero, mul_zero, mul_zero, mul_zero,
    add_zero, zero_div]

theorem aniso_psd (v1 v2 v3 : V3 ℝ) (t1 t2 t3 : Nat) (u1 u2 : V3 ℝ) (d0 d1 vol : ℝ) (f : Nat → ℝ)
    (h0 : 0 ≤ d0) (h1 : 0 ≤ d1) (hv : 0 < vol) :
    0 ≤ Coo.form (anisoBlock v1 v2 v3 (t1, t2, t3) u1 u2 d0 d1 vol) f f := by
  rw [aniso_local_form]
  apply div_nonneg _ hv.le
  exact add_nonneg (mul_nonneg h0 (mul_self_nonneg _)) (mul_nonneg h1 (mul_self_nonneg _))

theorem bessel (u1 u2 F : V3 ℝ) (h11 : dot u1 u1 = 1) (h22 : dot u2 u2 = 1) (h12 : dot u1 u2 = 0) :
    dot u1 F * dot u1 F + dot u2 F * dot u2 F ≤ dot F F := by
  linarith [triple_sq_orth h11 h22 h12 F, mul_self_nonneg (dot F (cross u1 u2))]

/-- weights `≤ 1` and an orthonormal pair: the anisotropic energy is at most the isotropic one (the lower bound
    `0 ≤ d` is not needed for this direction) -/
theorem aniso_le_iso (v1 v2 v3 : V3 ℝ) (t1 t2 t3 : Nat) (u1 u2 : V3 ℝ) (d0 d1 vol : ℝ) (f : Nat → ℝ)
    (h0' : d0 ≤ 1) (h1' : d1 ≤ 1) (hv : 0 < vol)
    (h11 : dot u1 u1 = 1) (h22 : dot u2 u2 = 1) (h12 : dot u1 u2 = 0) :
    Coo.form (anisoBlock v1 v2 v3 (t1, t2, t3) u1 u2 d0 d1 vol) f f ≤ Coo.form (isoBlock v1 v2 v3 (t1, t2, t3) vol) f f := by
  rw [aniso_local_form, isoBlock, FemTri.iso_local_form]
  apply div_le_div_of_nonneg_right _ hv.le
  set F := edgeComb v1 v2 v3 (f t1) (f t2) (f t3)
  linarith [bessel u1 u2 F h11 h22 h12, mul_le_of_le_one_left (mul_self_nonneg (dot u1 F)) h0',
    mul_le_of_le_one_left (mul_self_nonneg (dot u2 F)) h1']

theorem parseval_plane (u1 u2 n F G : V3 ℝ) (h11 : dot u1 u1 = 1) (h22 : dot u2 u2 = 1) (h12 : dot u1 u2 = 0)
    (h1n : dot u1 n = 0) (h2n : dot u2 n = 0) (hn : normSq n ≠ 0) (hF : dot n F = 0) :
    dot u1 F * dot u1 G + dot u2 F * dot u2 G = dot F G := by
  -- the residual `F − (u1·F) u1 − (u2·F) u2` is orthogonal to `u1`, `u2` and `n`, hence zero
  have key : ∀ w, dot (F - smul (dot u1 F) u1 - smul (dot u2 F) u2) w
      = dot F w - dot u1 F * dot u1 w - dot u2 F * dot u2 w := fun w => by
    rw [dot_sub_left, dot_sub_left, dot_smul_left, dot_smul_left]
  have hdet : dot u1 (cross u2 n) ≠ 0 := by
    intro hc
    have e := triple_sq_orth h11 h22 h12 n
    rw [dot_cross_rot n u1 u2, hc, h1n, h2n] at e
    rw [normSq_eq_dot] at hn
    apply hn
    linarith
  have hr : F - smul (dot u1 F) u1 - smul (dot u2 F) u2 = ⟨0, 0, 0⟩ :=
    eq_zero_of_orth hdet (by rw [key, h11, dot_comm u2 u1, h12, dot_comm F u1]; ring)
      (by rw [key, h22, h12, dot_comm F u2]; ring) (by rw [key, dot_comm F n, hF, h1n, h2n]; ring)
  have hG := key G
  rw [hr] at hG
  rw [dot_zero_left] at hG
  linarith

/-- **weights 1 and an orthonormal frame of the triangle plane give the isotropic block** -/
theorem aniso_one_eq_iso (v1 v2 v3 : V3 ℝ) (t1 t2 t3 : Nat) (u1 u2 : V3 ℝ) (vol : ℝ) (f g : Nat → ℝ)
    (h11 : dot u1 u1 = 1) (h22 : dot u2 u2 = 1) (h12 : dot u1 u2 = 0)
    (h1n : dot u1 (Spec.triN v1 v2 v3) = 0) (h2n : dot u2 (Spec.triN v1 v2 v3) = 0)
    (hn : normSq (Spec.triN v1 v2 v3) ≠ 0) :
    Coo.form (anisoBlock v1 v2 v3 (t1, t2, t3) u1 u2 1 1 vol) f g = Coo.form (isoBlock v1 v2 v3 (t1, t2, t3) vol) f g := by
  rw [aniso_local_form, isoBlock, FemTri.iso_local_form, one_mul, one_mul,
    parseval_plane u1 u2 _ _ _ h11 h22 h12 h1n h2n hn (Spec.edgeComb_perp v1 v2 v3 _ _ _)]

/-- per-triangle inputs of `_fem_tria_aniso`: `(u1, u2, d0, d1)` -/
abbrev AnisoIn := V3 ℝ × V3 ℝ × ℝ × ℝ

noncomputable def anisoBlockOf (vtx : Nat → V3 ℝ) (τ : Tri) (u : AnisoIn) : Coo ℝ :=
  anisoBlock (vtx τ.1) (vtx τ.2.1) (vtx τ.2.2) τ u.1 u.2.1 u.2.2.1 u.2.2.2 (Fem.triVol (vtx τ.1) (vtx τ.2.1) (vtx τ.2.2))

theorem stiffAniso_blocks (vtx : Nat → V3 ℝ) (ts : List Tri) (us : List AnisoIn) (h : NonDegenTri vtx ts) :
    Fem.stiffTriaAniso vtx ts us = ((ts.zip us).map fun p => anisoBlockOf vtx p.1 p.2).flatten := by
  unfold Fem.stiffTriaAniso
  rw [FemTri.triVols_nondegen vtx ts h, List.zip_map_self, List.zip_map_left, List.map_map]
  rfl

noncomputable def anisoTerm (vtx : Nat → V3 ℝ) (f g : Nat → ℝ) (τ : Tri) (u : AnisoIn) : ℝ :=
  let F := edgeComb (vtx τ.1) (vtx τ.2.1) (vtx τ.2.2) (f τ.1) (f τ.2.1) (f τ.2.2)
  let G := edgeComb (vtx τ.1) (vtx τ.2.1) (vtx τ.2.2) (g τ.1) (g τ.2.1) (g τ.2.2)
  (u.2.2.1 * (dot u.1 F * dot u.1 G) + u.2.2.2 * (dot u.2.1 F * dot u.2.1 G)) /
    Fem.triVol (vtx τ.1) (vtx τ.2.1) (vtx τ.2.2)

/-- **`f·A·g = Σ_τ (d0 (u1·F)(u1·G) + d1 (u2·F)(u2·G)) / vol_τ`** -/
theorem stiffAniso_form (vtx : Nat → V3 ℝ) (ts : List Tri) (us : List AnisoIn) (h : NonDegenTri vtx ts)
    (f g : Nat → ℝ) :
    Coo.form (Fem.stiffTriaAniso vtx ts us) f g = ((ts.zip us).map fun p => anisoTerm vtx f g p.1 p.2).sum := by
  rw [stiffAniso_blocks vtx ts us h]
  exact Coo.form_flatten_map _ _ _ f g fun p _ => aniso_local_form _ _ _ p.1.1 p.1.2.1 p.1.2.2 _ _ _ _ _ f g

/-! Every property of the assembled matrix is the property of the blocks, summed over the triangles. -/

theorem stiffAniso_symm (vtx : Nat → V3 ℝ) (ts : List Tri) (us : List AnisoIn) (h : NonDegenTri vtx ts) (f g : Nat → ℝ) :
    Coo.form (Fem.stiffTriaAniso vtx ts us) f g = Coo.form (Fem.stiffTriaAniso vtx ts us) g f := by
  rw [stiffAniso_blocks vtx ts us h]
  exact (Coo.form_flatten_map _ _ _ f g fun p _ => aniso_local_symm _ _ _ p.1.1 p.1.2.1 p.1.2.2 _ _ _ _ _ f g).trans
    (Coo.form_flatten_map _ _ _ g f fun _ _ => rfl).symm

theorem stiffAniso_entry_symm (vtx : Nat → V3 ℝ) (ts : List Tri) (us : List AnisoIn) (h : NonDegenTri vtx ts)
    (i j : Nat) : Coo.entry (Fem.stiffTriaAniso vtx ts us) i j = Coo.entry (Fem.stiffTriaAniso vtx ts us) j i :=
  Coo.entry_symm_of_form_symm _ (stiffAniso_symm vtx ts us h) i j

theorem stiffAniso_const_zero (vtx : Nat → V3 ℝ) (ts : List Tri) (us : List AnisoIn) (h : NonDegenTri vtx ts)
    (c : ℝ) (i : Nat) : Coo.mulVec (Fem.stiffTriaAniso vtx ts us) (fun _ => c) i = 0 := by
  rw [Coo.mulVec_eq_form, stiffAniso_blocks vtx ts us h,
    Coo.form_flatten_map _ _ (fun _ => 0) _ _ fun p _ => aniso_const_zero _ _ _ p.1.1 p.1.2.1 p.1.2.2 _ _ _ _ _ _ c]
  simp

theorem stiffAniso_psd (vtx : Nat → V3 ℝ) (ts : List Tri) (us : List AnisoIn) (h : NonDegenTri vtx ts)
    (hd : ∀ u ∈ us, 0 ≤ u.2.2.1 ∧ 0 ≤ u.2.2.2) (f : Nat → ℝ) :
    0 ≤ Coo.form (Fem.stiffTriaAniso vtx ts us) f f := by
  rw [stiffAniso_blocks vtx ts us h, Coo.form_flatten_map _ _ _ f f fun _ _ => rfl]
  refine List.sum_nonneg (List.forall_mem_map.2 fun p hp => ?_)
  have hu := hd _ (List.of_mem_zip hp).2
  exact aniso_psd _ _ _ p.1.1 p.1.2.1 p.1.2.2 _ _ _ _ _ f hu.1 hu.2 (FemTri.triVol_pos_of_nondegen h (List.of_mem_zip hp).1)

/-- the isotropic matrix as a concatenation of blocks over the same list `ts.zip us` -/
theorem stiffIso_blocks (vtx : Nat → V3 ℝ) (ts : List Tri) (us : List AnisoIn) (h : NonDegenTri vtx ts)
    (hl : us.length = ts.length) :
    Fem.stiffTria vtx ts = ((ts.zip us).map fun p =>
      isoBlock (vtx p.1.1) (vtx p.1.2.1) (vtx p.1.2.2) p.1 (Fem.triVol (vtx p.1.1) (vtx p.1.2.1) (vtx p.1.2.2))).flatten := by
  rw [FemTri.stiffTria_blocks vtx ts h]
  conv_lhs => rw [← List.map_fst_zip (l₁ := ts) (l₂ := us) hl.ge, List.map_map]
  rfl

/-- **weights `≤ 1` and orthonormal direction pairs: the anisotropic energy is dominated by the isotropic one** -/
theorem stiffAniso_le_iso (vtx : Nat → V3 ℝ) (ts : List Tri) (us : List AnisoIn) (h : NonDegenTri vtx ts)
    (hl : us.length = ts.length)
    (hd : ∀ u ∈ us, u.2.2.1 ≤ 1 ∧ u.2.2.2 ≤ 1 ∧ dot u.1 u.1 = 1 ∧ dot u.2.1 u.2.1 = 1 ∧ dot u.1 u.2.1 = 0)
    (f : Nat → ℝ) :
    Coo.form (Fem.stiffTriaAniso vtx ts us) f f ≤ Coo.form (Fem.stiffTria vtx ts) f f := by
  rw [stiffAniso_blocks vtx ts us h, stiffIso_blocks vtx ts us h hl, Coo.form_flatten_map _ _ _ f f fun _ _ => rfl,
    Coo.form_flatten_map _ _ _ f f fun _ _ => rfl]
  apply List.sum_le_sum
  intro p hp
  obtain ⟨h0, h1, h11, h22, h12⟩ := hd _ (List.of_mem_zip hp).2
  exact aniso_le_iso _ _ _ p.1.1 p.1.2.1 p.1.2.2 _ _ _ _ _ f h0 h1 (FemTri.triVol_pos_of_nondegen h (List.of_mem_zip hp).1)
    h11 h22 h12

/-- **anisotropy 0 (all weights 1) with orthonormal in-plane direction pairs reproduces the isotropic matrix**:
    same bilinear form, same stored entries -/
theorem stiffAniso_one_eq_iso (vtx : Nat → V3 ℝ) (ts : List Tri) (us : List AnisoIn) (h : NonDegenTri vtx ts)
    (hl : us.length = ts.length)
    (hd : ∀ p ∈ ts.zip us, p.2.2.2.1 = 1 ∧ p.2.2.2.2 = 1 ∧ dot p.2.1 p.2.1 = 1 ∧ dot p.2.2.1 p.2.2.1 = 1 ∧
      dot p.2.1 p.2.2.1 = 0 ∧ dot p.2.1 (Spec.triN (vtx p.1.1) (vtx p.1.2.1) (vtx p.1.2.2)) = 0 ∧
      dot p.2.2.1 (Spec.triN (vtx p.1.1) (vtx p.1.2.1) (vtx p.1.2.2)) = 0) :
    (∀ f g, Coo.form (Fem.stiffTriaAniso vtx ts us) f g = Coo.form (Fem.stiffTria vtx ts) f g) ∧
    (∀ i j, Coo.entry (Fem.stiffTriaAniso vtx ts us) i j = Coo.entry (Fem.stiffTria vtx ts) i j) := by
  have hform : ∀ f g, Coo.form (Fem.stiffTriaAniso vtx ts us) f g = Coo.form (Fem.stiffTria vtx ts) f g := by
    intro f g
    rw [stiffAniso_blocks vtx ts us h, stiffIso_blocks vtx ts us h hl]
    refine Coo.form_assembled_congr _ _ _ f g fun p hp => ?_
    obtain ⟨e0, e1, h11, h22, h12, h1n, h2n⟩ := hd p hp
    rw [anisoBlockOf, e0, e1]
    exact aniso_one_eq_iso _ _ _ p.1.1 p.1.2.1 p.1.2.2 _ _ _ f g h11 h22 h12 h1n h2n
      (FemTri.normSq_pos_of_nondegen (h p.1 (List.of_mem_zip hp).1)).ne'
  exact ⟨hform, Coo.entry_congr hform⟩

/-- the anisotropy weights `exp(−a |c|)` lie in `(0, 1]`; anisotropy `a = 0` gives weight 1 -/
theorem exp_weight_mem (a c : ℝ) (ha : 0 ≤ a) :
    0 < Real.exp (-a * |c|) ∧ Real.exp (-a * |c|) ≤ 1 ∧ Real.exp (-0 * |c|) = 1 := by
  refine ⟨Real.exp_pos _, ?_, by simp⟩
  rw [Real.exp_le_one_iff]
  have := mul_nonneg ha (abs_nonneg c)
  linarith

/-- the frame of `curvTria_frame` satisfies the hypotheses consumed by `stiffAniso_le_iso` / `stiffAniso_one_eq_iso`
    for the triangle `(v0,v1,v2)` -/
theorem curvTria_feeds_aniso (v0 v1 v2 tumin : V3 ℝ)
    (hn : ¬ Real.sqrt (normSq (cross (v1 - v0) (v2 - v0))) < e8)
    (hp : ¬ Real.sqrt (normSq (inPlane v0 v1 v2 tumin)) < e8) :
    let u := triaDirs v0 v1 v2 tumin
    dot u.1 u.1 = 1 ∧ dot u.2 u.2 = 1 ∧ dot u.1 u.2 = 0 ∧
    dot u.1 (Spec.triN v0 v1 v2) = 0 ∧ dot u.2 (Spec.triN v0 v1 v2) = 0 := by
  obtain ⟨a, b, c, d, e, _⟩ := curvTria_frame v0 v1 v2 tumin hn hp
  exact ⟨a, b, c, d, e⟩

section Examples

example : argsort3 (3 : ℝ) 1 2 = (1, 2, 0) := by rw [argsort3_eq]; norm_num
example : argsort3 (-1 : ℝ) (-1) (-2) = (2, 0, 1) := by rw [argsort3_eq]; norm_num

def stdBasis : Nat → V3 ℝ := fun i => match i with
  | 0 => ⟨1, 0, 0⟩
  | 1 => ⟨0, 1, 0⟩
  | _ => ⟨0, 0, 1⟩

theorem stdBasis_orthonormal : Orthonormal3 stdBasis := by
  intro i j hi hj
  have hi' : i = 0 ∨ i = 1 ∨ i = 2 := by omega
  have hj' : j = 0 ∨ j = 1 ∨ j = 2 := by omega
  rcases hi' with rfl | rfl | rfl <;> rcases hj' with rfl | rfl | rfl <;> simp [stdBasis, dot]

def exEv : Nat → ℝ := fun i => if i = 0 then 5 else if i = 1 then 3 else 0

/-- vertex normal `(0,0,-2)`: the third eigenvector is selected and flipped; eigenvalues `5 > 3` are swapped -/
example :
    let F := post exEv stdBasis ⟨0, 0, -2⟩
    F.cmin = 3 ∧ F.cmax = 5 ∧ F.cmean = 4 ∧ F.cgauss = 15 ∧ F.normal = ⟨0, 0, -1⟩ ∧
    dot (cross F.umin F.umax) F.normal = 1 := by
  intro F
  have hidx : alignIdx stdBasis ⟨0, 0, -2⟩ = (2, 0, 1) := by
    simp only [alignIdx, alignKey, argsort3_eq, stdBasis, dot]; norm_num
  have hne : dot (stdBasis (alignIdx stdBasis ⟨0, 0, -2⟩).1) (⟨0, 0, -2⟩ : V3 ℝ) ≠ 0 := by
    rw [hidx]; simp [stdBasis, dot]
  have ht : tangentIdx exEv (2, 0, 1).2.1 (2, 0, 1).2.2 = (1, 0) := by simp [tangentIdx, exEv]; norm_num
  have hF : F = postIdx exEv stdBasis ⟨0, 0, -2⟩ 2 1 0 := by
    have := post_eq exEv stdBasis ⟨0, 0, -2⟩
    rw [hidx, ht] at this; exact this
  have h5 := (frame_post_oriented exEv stdBasis ⟨0, 0, -2⟩ stdBasis_orthonormal hne).2.2.2.2
  have hc : F.cmin = 3 ∧ F.cmax = 5 ∧ F.cmean = 4 ∧ F.cgauss = 15 := by
    rw [hF]; simp [postIdx, exEv]; norm_num
  refine ⟨hc.1, hc.2.1, hc.2.2.1, hc.2.2.2, ?_, h5⟩
  rw [hF]; simp only [postIdx, stdBasis, dot, sgn]; apply V3.ext' <;> (v3_flat; norm_num)

example :
    let u := triaDirs (⟨0, 0, 0⟩ : V3 ℝ) ⟨1, 0, 0⟩ ⟨0, 1, 0⟩ ⟨1, 0, 5⟩
    dot u.1 u.1 = 1 ∧ dot u.2 u.2 = 1 ∧ dot u.1 u.2 = 0 := by
  have hcr : cross ((⟨1, 0, 0⟩ : V3 ℝ) - ⟨0, 0, 0⟩) ((⟨0, 1, 0⟩ : V3 ℝ) - ⟨0, 0, 0⟩) = ⟨0, 0, 1⟩ := Spec.triN_unit
  have hn : ¬ Real.sqrt (normSq (cross ((⟨1, 0, 0⟩ : V3 ℝ) - ⟨0, 0, 0⟩) ((⟨0, 1, 0⟩ : V3 ℝ) - ⟨0, 0, 0⟩))) < e8 := by
    rw [hcr, normSq_ez, Real.sqrt_one]; unfold e8; norm_num
  have hin : inPlane (⟨0, 0, 0⟩ : V3 ℝ) ⟨1, 0, 0⟩ ⟨0, 1, 0⟩ ⟨1, 0, 5⟩ = ⟨1, 0, 0⟩ := by
    simp only [inPlane, unitNormal, hcr, normSq_ez, Real.sqrt_one]
    apply V3.ext' <;> (v3_flat; norm_num)
  have hp : ¬ Real.sqrt (normSq (inPlane (⟨0, 0, 0⟩ : V3 ℝ) ⟨1, 0, 0⟩ ⟨0, 1, 0⟩ ⟨1, 0, 5⟩)) < e8 := by
    rw [hin]
    have : normSq (⟨1, 0, 0⟩ : V3 ℝ) = 1 := by v3_flat; norm_num
    rw [this, Real.sqrt_one]; unfold e8; norm_num
  obtain ⟨a, b, c, _⟩ := curvTria_frame _ _ _ _ hn hp
  exact ⟨a, b, c⟩

/-- one non-degenerate triangle with the in-plane frame `(e_x, e_y)` and weights 1: the hypotheses of
    `stiffAniso_one_eq_iso` are satisfiable -/
example : ∀ f g, Coo.form (Fem.stiffTriaAniso (vtx3 (⟨0, 0, 0⟩ : V3 ℝ) ⟨1, 0, 0⟩ ⟨0, 1, 0⟩) [(0, 1, 2)]
      [(⟨1, 0, 0⟩, ⟨0, 1, 0⟩, 1, 1)]) f g =
    Coo.form (Fem.stiffTria (vtx3 (⟨0, 0, 0⟩ : V3 ℝ) ⟨1, 0, 0⟩ ⟨0, 1, 0⟩) [(0, 1, 2)]) f g := by
  refine (stiffAniso_one_eq_iso _ _ _ FemTri.nonDegenTri_unit rfl ?_).1
  intro p hp
  simp only [List.zip_cons_cons, List.zip_nil_right, List.mem_singleton] at hp
  subst hp
  simp only [vtx3, Spec.triN_unit]
  refine ⟨trivial, trivial, ?_, ?_, ?_, ?_, ?_⟩ <;> (v3_flat; norm_num)

example : 0 < Real.exp (-(3 : ℝ) * |(-2 : ℝ)|) ∧ Real.exp (-(3 : ℝ) * |(-2 : ℝ)|) ≤ 1 :=
  ⟨(exp_weight_mem 3 (-2) (by norm_num)).1, (exp_weight_mem 3 (-2) (by norm_num)).2.1⟩

end Examples

end LapyVerif.Props.C17
