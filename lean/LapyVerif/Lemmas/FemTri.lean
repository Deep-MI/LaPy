import Mathlib.Tactic.Linarith
import LapyVerif.Spec.Grad
import LapyVerif.Model.Fem
import LapyVerif.Lemmas.Assembly
/-
  Per-triangle identities behind C01/C02 (one generic element, all real coordinates).  The lift to element lists
  is `C01.stiff_form`, `C02.mass_form`.

  Non-degeneracy has one predicate per guard of the code, because the guards differ: `NonDegenTri` (here) and
  `NonDegenTet` (FemTet) are the complements of `vol < eps` in `_fem_tria` (`vol = 2|n|`) and of `vol == 0` in
  `_fem_tetra`; `C06.NonDegenLn` and `C06.NonDegenDet` are the complements of `|n| < eps` in `tria_compute_gradient`
  and of `|vol| < eps` in `tet_compute_gradient`.  `C06.nondegenTri_of_ln` and `C06.nondegenTet_of_det` go from the
  second pair to the first.
-/
namespace LapyVerif
open V3

/-- complement of the code's own guard `vol < sys.float_info.epsilon` on every triangle -/
def NonDegenTri (vtx : Nat → V3 ℝ) (ts : List Tri) : Prop :=
  ∀ τ ∈ ts, ¬ (Fem.triVol (vtx τ.1) (vtx τ.2.1) (vtx τ.2.2) < epsK)

namespace FemTri

theorem triCr_eq_triN (v1 v2 v3 : V3 ℝ) : Fem.triCr v1 v2 v3 = Spec.triN v1 v2 v3 := by
  rw [Fem.triCr, ← V3.neg_sub v2 v3, cross_neg_left, cross_anticomm, V3.neg_neg]
  exact (Spec.triN_rot v3 v1 v2).symm

theorem triVol_eq (v1 v2 v3 : V3 ℝ) : Fem.triVol v1 v2 v3 = 4 * Spec.triArea v1 v2 v3 := by
  simp only [Fem.triVol, Spec.triArea, triCr_eq_triN, sqrt_real]; push_cast; ring

theorem triVol_unit : Fem.triVol (⟨0, 0, 0⟩ : V3 ℝ) ⟨1, 0, 0⟩ ⟨0, 1, 0⟩ = 2 := by
  rw [triVol_eq, Spec.triArea_unit]; norm_num

/-- the unit right triangle passes the guard: the witness of the worked examples -/
theorem nonDegenTri_unit : NonDegenTri (vtx3 ⟨0, 0, 0⟩ ⟨1, 0, 0⟩ ⟨0, 1, 0⟩) [(0, 1, 2)] :=
  List.forall_mem_singleton.2 (by
    show ¬ Fem.triVol (⟨0, 0, 0⟩ : V3 ℝ) ⟨1, 0, 0⟩ ⟨0, 1, 0⟩ < epsK
    rw [triVol_unit, epsK_real]; norm_num)

/-- under the complement of the guard no entry of `vol` is replaced -/
theorem triVols_nondegen (vtx : Nat → V3 ℝ) (ts : List Tri) (h : NonDegenTri vtx ts) :
    Fem.triVols vtx ts = ts.map fun τ => Fem.triVol (vtx τ.1) (vtx τ.2.1) (vtx τ.2.2) := by
  unfold Fem.triVols
  exact (List.map_congr_left (List.forall_mem_map.2 fun τ hτ => if_neg (h τ hτ))).trans (List.map_id _)

theorem stiffTria_blocks (vtx : Nat → V3 ℝ) (ts : List Tri) (h : NonDegenTri vtx ts) :
    Fem.stiffTria vtx ts = (ts.map fun τ =>
      let v1 := vtx τ.1; let v2 := vtx τ.2.1; let v3 := vtx τ.2.2
      Fem.triBlockA τ (Fem.triA12 v1 v2 v3 (Fem.triVol v1 v2 v3)) (Fem.triA23 v1 v2 v3 (Fem.triVol v1 v2 v3))
        (Fem.triA31 v1 v2 v3 (Fem.triVol v1 v2 v3))).flatten := by
  unfold Fem.stiffTria
  rw [triVols_nondegen vtx ts h, zip_map_self_map]

theorem triVol_pos_of_nondegen {vtx : Nat → V3 ℝ} {ts : List Tri} (h : NonDegenTri vtx ts) {τ : Tri} (hτ : τ ∈ ts) :
    0 < Fem.triVol (vtx τ.1) (vtx τ.2.1) (vtx τ.2.2) :=
  pos_of_not_lt_epsK (h τ hτ)

theorem normSq_pos_of_nondegen {v1 v2 v3 : V3 ℝ} (h : ¬ (Fem.triVol v1 v2 v3 < epsK)) :
    0 < normSq (Spec.triN v1 v2 v3) := by
  have h2 := pos_of_not_lt_epsK h
  rw [Fem.triVol, triCr_eq_triN, sqrt_real] at h2
  exact Real.sqrt_pos.mp ((mul_pos_iff_of_pos_left (by norm_num)).mp h2)

theorem area_pos_of_nondegen (v1 v2 v3 : V3 ℝ) (h : ¬ (Fem.triVol v1 v2 v3 < epsK)) :
    0 < Spec.triArea v1 v2 v3 := by
  have := normSq_pos_of_nondegen h
  unfold Spec.triArea
  have := Real.sqrt_pos.mpr this
  positivity

/-- a block with zero row sums is a weighted sum of products of differences along the edges -/
theorem triBlockA_form (t1 t2 t3 : Nat) (a12 a23 a31 : ℝ) (f g : Nat → ℝ) :
    Coo.form (Fem.triBlockA (t1, t2, t3) a12 a23 a31) f g
      = -(a12 * ((f t1 - f t2) * (g t1 - g t2)) + a23 * ((f t2 - f t3) * (g t2 - g t3))
          + a31 * ((f t3 - f t1) * (g t3 - g t1))) := by
  simp only [Fem.triBlockA, Fem.triBlock, Coo.form, List.map, List.sum_cons, List.sum_nil]
  ring

/-- the block of `_fem_tria` (the isotropic one; its anisotropic partner is `C17.aniso_local_form`) for any `vol`:
    `f·A_τ·g = F·G / vol` with `F`, `G` the `Spec.edgeComb` of the corner values -/
theorem iso_local_form (v1 v2 v3 : V3 ℝ) (t1 t2 t3 : Nat) (vol : ℝ) (f g : Nat → ℝ) :
    Coo.form (Fem.triBlockA (t1, t2, t3) (Fem.triA12 v1 v2 v3 vol) (Fem.triA23 v1 v2 v3 vol) (Fem.triA31 v1 v2 v3 vol)) f g
      = dot (Spec.edgeComb v1 v2 v3 (f t1) (f t2) (f t3)) (Spec.edgeComb v1 v2 v3 (g t1) (g t2) (g t3)) / vol := by
  rw [triBlockA_form]
  simp only [Fem.triA12, Fem.triA23, Fem.triA31, Spec.edgeComb]
  -- in the two edges `a`, `b` at `v1` the sides are `b − a`, `−b`, `a` (they add up to zero), and both sides are
  -- polynomials in `a·a`, `a·b`, `b·b`
  rw [sub_eq_sub_sub_sub v1 v2 v3, ← V3.neg_sub v3 v1]
  generalize v2 - v1 = a
  generalize v3 - v1 = b
  simp only [dot_add_left, dot_add_right, dot_sub_left, dot_sub_right, dot_neg_left, dot_neg_right, dot_smul_left,
    dot_smul_right, dot_comm b a]
  ring

/-- form of the stiffness block of one triangle = area × ∇f·∇g -/
theorem local_form (v1 v2 v3 : V3 ℝ) (t1 t2 t3 : Nat) (f g : Nat → ℝ)
    (hN : 0 < normSq (Spec.triN v1 v2 v3)) :
    Coo.form (Fem.triBlockA (t1, t2, t3) (Fem.triA12 v1 v2 v3 (Fem.triVol v1 v2 v3))
        (Fem.triA23 v1 v2 v3 (Fem.triVol v1 v2 v3)) (Fem.triA31 v1 v2 v3 (Fem.triVol v1 v2 v3))) f g
      = Spec.triArea v1 v2 v3 *
          dot (Spec.gradTri v1 v2 v3 (f t1) (f t2) (f t3)) (Spec.gradTri v1 v2 v3 (g t1) (g t2) (g t3)) := by
  have hs := (Real.sqrt_pos.mpr hN).ne'
  have hss := Real.mul_self_sqrt hN.le
  rw [iso_local_form, Spec.gradTri_dot, triVol_eq, Spec.triArea]
  generalize Real.sqrt (normSq (Spec.triN v1 v2 v3)) = s at hs hss ⊢
  rw [← hss]
  field_simp
  ring

end FemTri
end LapyVerif
