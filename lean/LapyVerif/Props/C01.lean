import LapyVerif.Lemmas.Assembly
import LapyVerif.Lemmas.FemTri
import LapyVerif.Lemmas.FemTet
/-
  C01 — the stiffness matrix is the exact piecewise-linear Dirichlet form.

  All theorems are about the ℝ-instance of the model `Fem.stiffTria` / `Fem.stiffTet` (which the bridges of
  `Bridge/Fem.lean` tie to what `/repo` computes), for EVERY vertex map and EVERY element list — no bound on
  the number of elements, no manifoldness / orientation / index-range hypothesis — under exactly the complement
  of the code's own degeneracy guard (`NonDegenTri`, `NonDegenTet`).

  The clauses of C01 about the anisotropic matrix `Fem.stiffTriaAniso` (form, symmetry, zero row sums, positivity,
  comparison with the isotropic one, range of the exponential weights) are section 4 of `Props/C17.lean`, where the
  principal directions they take as input come from.  Independence of the vertex order is proved here for triangles
  (`stiff_form_reorder`); for tetrahedra it is `C04.stiff_form_reorder_tet`.  Worked instances of this file are in
  `Props/Examples.lean`.
-/
namespace LapyVerif.Props.C01
open V3

/-- **f·A·g = Σ_τ area(τ) ∇f|τ · ∇g|τ**  (the Dirichlet form of the linear interpolants) -/
theorem stiff_form (vtx : Nat → V3 ℝ) (ts : List Tri) (h : NonDegenTri vtx ts) (f g : Nat → ℝ) :
    Coo.form (Fem.stiffTria vtx ts) f g =
      (ts.map fun τ =>
        Spec.triArea (vtx τ.1) (vtx τ.2.1) (vtx τ.2.2) *
          dot (Spec.gradTri (vtx τ.1) (vtx τ.2.1) (vtx τ.2.2) (f τ.1) (f τ.2.1) (f τ.2.2))
              (Spec.gradTri (vtx τ.1) (vtx τ.2.1) (vtx τ.2.2) (g τ.1) (g τ.2.1) (g τ.2.2))).sum := by
  rw [FemTri.stiffTria_blocks vtx ts h]
  exact Coo.form_flatten_map ts _ _ f g fun τ hτ =>
    FemTri.local_form _ _ _ τ.1 τ.2.1 τ.2.2 f g (FemTri.normSq_pos_of_nondegen (h τ hτ))

theorem stiff_form_symm (vtx : Nat → V3 ℝ) (ts : List Tri) (h : NonDegenTri vtx ts) (f g : Nat → ℝ) :
    Coo.form (Fem.stiffTria vtx ts) f g = Coo.form (Fem.stiffTria vtx ts) g f := by
  rw [stiff_form vtx ts h, stiff_form vtx ts h]
  exact congrArg List.sum (List.map_congr_left fun τ _ => by rw [dot_comm])

/-- symmetric entry by entry (the stored, duplicate-summed entries) -/
theorem stiff_entry_symm (vtx : Nat → V3 ℝ) (ts : List Tri) (h : NonDegenTri vtx ts) (i j : Nat) :
    Coo.entry (Fem.stiffTria vtx ts) i j = Coo.entry (Fem.stiffTria vtx ts) j i :=
  Coo.entry_symm_of_form_symm _ (stiff_form_symm vtx ts h) i j

theorem gradTri_const (v1 v2 v3 : V3 ℝ) (c : ℝ) : Spec.gradTri v1 v2 v3 c c c = ⟨0, 0, 0⟩ := by
  rw [Spec.gradTri_eq, Spec.edgeComb_const]
  refine ext_dot fun w => ?_
  rw [dot_smul_right, ← dot_cross_rot _ w, dot_zero_left, mul_zero, dot_zero_right]

/-- constants are annihilated: every row of `A·c` vanishes (hence also every column, by symmetry) -/
theorem stiff_const_zero (vtx : Nat → V3 ℝ) (ts : List Tri) (h : NonDegenTri vtx ts) (c : ℝ) (i : Nat) :
    Coo.mulVec (Fem.stiffTria vtx ts) (fun _ => c) i = 0 := by
  rw [Coo.mulVec_eq_form, stiff_form vtx ts h]
  exact List.sum_eq_zero (List.forall_mem_map.2 fun τ _ => by rw [gradTri_const, dot_zero_right, mul_zero])

theorem stiff_psd (vtx : Nat → V3 ℝ) (ts : List Tri) (h : NonDegenTri vtx ts) (f : Nat → ℝ) :
    0 ≤ Coo.form (Fem.stiffTria vtx ts) f f := by
  rw [stiff_form vtx ts h]
  exact List.sum_nonneg (List.forall_mem_map.2 fun τ hτ =>
    mul_nonneg (FemTri.area_pos_of_nondegen _ _ _ (h τ hτ)).le (dot_self_nonneg _))

/-- finite entries: every denominator of the assembly is non-zero -/
theorem stiff_denominators (vtx : Nat → V3 ℝ) (ts : List Tri) (h : NonDegenTri vtx ts) :
    ∀ x ∈ Fem.triVols vtx ts, x ≠ 0 := by
  rw [FemTri.triVols_nondegen vtx ts h]
  exact List.forall_mem_map.2 fun τ hτ => (FemTri.triVol_pos_of_nondegen h hτ).ne'

/-- the same map as `Orient.swap01` of the orientation model -/
def swapTri (τ : Tri) : Tri := (τ.2.1, τ.1, τ.2.2)
def rotTri (τ : Tri) : Tri := (τ.2.1, τ.2.2, τ.1)

theorem triVol_reorder (vtx : Nat → V3 ℝ) {τ τ' : Tri} (h : τ' = τ ∨ τ' = swapTri τ ∨ τ' = rotTri τ) :
    Fem.triVol (vtx τ'.1) (vtx τ'.2.1) (vtx τ'.2.2) = Fem.triVol (vtx τ.1) (vtx τ.2.1) (vtx τ.2.2) := by
  rw [FemTri.triVol_eq, FemTri.triVol_eq]
  rcases h with rfl | rfl | rfl
  · rfl
  · rw [swapTri, Spec.triArea_swap]
  · rw [rotTri, Spec.triArea_rot]

theorem nonDegenTri_reorder (vtx : Nat → V3 ℝ) (ts : List Tri) (h : NonDegenTri vtx ts)
    (σ : Tri → Tri) (hσ : ∀ τ, σ τ = τ ∨ σ τ = swapTri τ ∨ σ τ = rotTri τ) : NonDegenTri vtx (ts.map σ) := by
  refine List.forall_mem_map.2 fun τ hτ => ?_
  rw [triVol_reorder vtx (hσ τ)]
  exact h τ hτ

/-- Re-ordering the vertices of any subset of the triangles — by the generators `swapTri`, `rotTri` of S₃, i.e. by
    any permutation, either orientation — leaves the stiffness form, hence every stored entry, unchanged.
    `σ τ` chooses the permutation per triangle (`none`, `swap`, `rot`; compose by iterating the theorem). -/
theorem stiff_form_reorder (vtx : Nat → V3 ℝ) (ts : List Tri) (h : NonDegenTri vtx ts)
    (σ : Tri → Tri) (hσ : ∀ τ, σ τ = τ ∨ σ τ = swapTri τ ∨ σ τ = rotTri τ) (f g : Nat → ℝ) :
    Coo.form (Fem.stiffTria vtx (ts.map σ)) f g = Coo.form (Fem.stiffTria vtx ts) f g := by
  rw [stiff_form vtx _ (nonDegenTri_reorder vtx ts h σ hσ), stiff_form vtx ts h, List.map_map]
  refine congrArg List.sum (List.map_congr_left fun τ _ => ?_)
  rcases hσ τ with e | e | e <;> simp only [Function.comp, e]
  · simp only [swapTri, Spec.gradTri_swap, Spec.triArea_swap]
  · simp only [rotTri, Spec.gradTri_rot, Spec.triArea_rot]

theorem stiff_entry_reorder (vtx : Nat → V3 ℝ) (ts : List Tri) (h : NonDegenTri vtx ts)
    (σ : Tri → Tri) (hσ : ∀ τ, σ τ = τ ∨ σ τ = swapTri τ ∨ σ τ = rotTri τ) (i j : Nat) :
    Coo.entry (Fem.stiffTria vtx (ts.map σ)) i j = Coo.entry (Fem.stiffTria vtx ts) i j :=
  Coo.entry_congr (stiff_form_reorder vtx ts h σ hσ) i j

theorem tetVols_nondegen (vtx : Nat → V3 ℝ) (ts : List Tet) (h : NonDegenTet vtx ts) :
    Fem.tetVols vtx ts = ts.map fun τ => Fem.tetVol (vtx τ.1) (vtx τ.2.1) (vtx τ.2.2.1) (vtx τ.2.2.2) := by
  unfold Fem.tetVols
  refine (List.map_congr_left (List.forall_mem_map.2 fun τ hτ => ?_)).trans (List.map_id _)
  exact if_neg (by simpa using h τ hτ)

theorem tetDet_ne_zero {v1 v2 v3 v4 : V3 ℝ} (h : Fem.tetVol v1 v2 v3 v4 ≠ 0) : Spec.tetDet v1 v2 v3 v4 ≠ 0 := by
  rw [FemTet.tetVol_eq] at h
  exact abs_ne_zero.mp h

theorem stiffTet_blocks (vtx : Nat → V3 ℝ) (ts : List Tet) (h : NonDegenTet vtx ts) :
    Fem.stiffTet vtx ts = (ts.map (tetStiffBlock vtx)).flatten := by
  unfold Fem.stiffTet
  rw [tetVols_nondegen vtx ts h, zip_map_self_map]
  rfl

/-- **f·A·g = Σ_τ vol(τ) ∇f|τ · ∇g|τ** for tetrahedral meshes -/
theorem stiff_form_tet (vtx : Nat → V3 ℝ) (ts : List Tet) (h : NonDegenTet vtx ts) (f g : Nat → ℝ) :
    Coo.form (Fem.stiffTet vtx ts) f g =
      (ts.map fun τ =>
        Spec.tetVolume (vtx τ.1) (vtx τ.2.1) (vtx τ.2.2.1) (vtx τ.2.2.2) *
          dot (Spec.gradTet (vtx τ.1) (vtx τ.2.1) (vtx τ.2.2.1) (vtx τ.2.2.2) (f τ.1) (f τ.2.1) (f τ.2.2.1) (f τ.2.2.2))
              (Spec.gradTet (vtx τ.1) (vtx τ.2.1) (vtx τ.2.2.1) (vtx τ.2.2.2) (g τ.1) (g τ.2.1) (g τ.2.2.1) (g τ.2.2.2))).sum := by
  rw [stiffTet_blocks vtx ts h]
  exact Coo.form_flatten_map ts _ _ f g fun τ hτ =>
    FemTet.local_form vtx τ.1 τ.2.1 τ.2.2.1 τ.2.2.2 f g (tetDet_ne_zero (h τ hτ))

theorem stiff_form_symm_tet (vtx : Nat → V3 ℝ) (ts : List Tet) (h : NonDegenTet vtx ts) (f g : Nat → ℝ) :
    Coo.form (Fem.stiffTet vtx ts) f g = Coo.form (Fem.stiffTet vtx ts) g f := by
  rw [stiff_form_tet vtx ts h, stiff_form_tet vtx ts h]
  exact congrArg List.sum (List.map_congr_left fun τ _ => by rw [dot_comm])

theorem stiff_entry_symm_tet (vtx : Nat → V3 ℝ) (ts : List Tet) (h : NonDegenTet vtx ts) (i j : Nat) :
    Coo.entry (Fem.stiffTet vtx ts) i j = Coo.entry (Fem.stiffTet vtx ts) j i :=
  Coo.entry_symm_of_form_symm _ (stiff_form_symm_tet vtx ts h) i j

theorem gradTet_const (v1 v2 v3 v4 : V3 ℝ) (c : ℝ) : Spec.gradTet v1 v2 v3 v4 c c c c = ⟨0, 0, 0⟩ := by
  simp only [Spec.gradTet, sub_self, V3.zero_smul, V3.add_zero, V3.smul_zero]; rfl

theorem stiff_const_zero_tet (vtx : Nat → V3 ℝ) (ts : List Tet) (h : NonDegenTet vtx ts) (c : ℝ) (i : Nat) :
    Coo.mulVec (Fem.stiffTet vtx ts) (fun _ => c) i = 0 := by
  rw [Coo.mulVec_eq_form, stiff_form_tet vtx ts h]
  exact List.sum_eq_zero (List.forall_mem_map.2 fun τ _ => by rw [gradTet_const, dot_zero_right, mul_zero])

theorem stiff_psd_tet (vtx : Nat → V3 ℝ) (ts : List Tet) (h : NonDegenTet vtx ts) (f : Nat → ℝ) :
    0 ≤ Coo.form (Fem.stiffTet vtx ts) f f := by
  rw [stiff_form_tet vtx ts h]
  exact List.sum_nonneg (List.forall_mem_map.2 fun τ _ =>
    mul_nonneg (div_nonneg (abs_nonneg _) (by norm_num)) (dot_self_nonneg _))

end LapyVerif.Props.C01
