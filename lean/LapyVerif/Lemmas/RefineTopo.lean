import LapyVerif.Lemmas.RefineLemmas
/-
  Topology of the refined mesh (used by the topology part of Props/C11): the key list of the refined mesh is a permutation of the first halves
  (old,new), the second halves (new,old) of the parent's keys and the inner (new,new) keys; the three blocks have no key
  in common, so every multiplicity of the refined mesh is one of the parent's or one of the inner block
  (`forall_count_iff`), which carries closedness, manifoldness and orientedness (by `Lemmas/Count.lean`) and the counts
  of the Euler characteristic.  Everything is stated for an abstract edge-to-new-vertex map `mv`.
-/
namespace LapyVerif
open List OrientLemmas
namespace Refine

/-- half-edge `(a,b)` ↦ its first half `(a, m_ab)` -/
def φA (mv : Nat → Nat → Nat) (k : Nat × Nat) : Nat × Nat := (k.1, mv k.1 k.2)
/-- half-edge `(a,b)` ↦ its second half `(m_ab, b)` -/
def φB (mv : Nat → Nat → Nat) (k : Nat × Nat) : Nat × Nat := (mv k.1 k.2, k.2)
/-- the six inner half-edges of a parent (three inner edges, both directions): first the side opposite the corner,
    `(m_ab, m_ca)`, `(m_bc, m_ab)`, `(m_ca, m_bc)`, of the corner children at `a`, `b`, `c` (their other two sides are a
    first and a second half), then the three sides of the middle child `(m_ab, m_bc, m_ca)` -/
def inner (mv : Nat → Nat → Nat) (τ : Tri) : List (Nat × Nat) :=
  [(mv τ.1 τ.2.1, mv τ.2.2 τ.1), (mv τ.2.1 τ.2.2, mv τ.1 τ.2.1), (mv τ.2.2 τ.1, mv τ.2.1 τ.2.2),
   (mv τ.1 τ.2.1, mv τ.2.1 τ.2.2), (mv τ.2.1 τ.2.2, mv τ.2.2 τ.1), (mv τ.2.2 τ.1, mv τ.1 τ.2.1)]

theorem flatMap_perm3 {α β : Type} (l : List α) (f a b c : α → List β)
    (h : ∀ x ∈ l, f x ~ a x ++ (b x ++ c x)) : l.flatMap f ~ l.flatMap a ++ (l.flatMap b ++ l.flatMap c) :=
  (Perm.flatMap_left l h).trans ((flatMap_append_perm l a (fun x => b x ++ c x)).symm.trans
    (Perm.append_left _ (flatMap_append_perm l b c).symm))

theorem dir_children_perm (mv : Nat → Nat → Nat) (τ : Tri) :
    (children mv τ).flatMap dirEdges ~ (dirEdges τ).map (φA mv) ++ ((dirEdges τ).map (φB mv) ++ inner mv τ) := by
  rw [List.perm_iff_count]
  intro k
  simp only [children, dirEdges, inner, φA, φB, List.flatMap_cons, List.flatMap_nil, List.map_cons, List.map_nil,
    List.cons_append, List.nil_append, List.append_nil, List.count_cons, List.count_nil, Nat.zero_add]
  ac_rfl

theorem sym_children_perm (mv : Nat → Nat → Nat) (hc : ∀ a b, mv a b = mv b a) (τ : Tri) :
    (children mv τ).flatMap Props.C09.triSymKeys ~
      (Props.C09.triSymKeys τ).map (φA mv) ++ ((Props.C09.triSymKeys τ).map (φB mv) ++ (inner mv τ ++ inner mv τ)) := by
  rw [List.perm_iff_count]
  intro k
  simp only [children, Props.C09.triSymKeys, inner, φA, φB, List.flatMap_cons, List.flatMap_nil, List.map_cons, List.map_nil,
    List.cons_append, List.nil_append, List.append_nil, List.count_cons, List.count_nil, Nat.zero_add]
  rw [hc τ.2.1 τ.1, hc τ.2.2 τ.2.1, hc τ.1 τ.2.2]
  ac_rfl

theorem dirKeys_refTris_perm (mv : Nat → Nat → Nat) (ts : List Tri) :
    Topo.dirKeys (refTris mv ts) ~
      (Topo.dirKeys ts).map (φA mv) ++ ((Topo.dirKeys ts).map (φB mv) ++ ts.flatMap (inner mv)) := by
  rw [Topo.dirKeys_eq, Topo.dirKeys_eq, refTris, List.flatMap_assoc, List.map_flatMap, List.map_flatMap]
  exact flatMap_perm3 ts _ _ _ _ (fun τ _ => dir_children_perm mv τ)

theorem symKeys_refTris_perm (mv : Nat → Nat → Nat) (hc : ∀ a b, mv a b = mv b a) (ts : List Tri) :
    Topo.symKeys (refTris mv ts) ~
      (Topo.symKeys ts).map (φA mv) ++ ((Topo.symKeys ts).map (φB mv) ++
        (ts.flatMap (inner mv) ++ ts.flatMap (inner mv))) := by
  rw [Topo.symKeys_eq, Topo.symKeys_eq, refTris, List.flatMap_assoc, List.map_flatMap, List.map_flatMap]
  exact (flatMap_perm3 ts _ _ _ _ (fun τ _ => sym_children_perm mv hc τ)).trans
    (Perm.append_left _ (Perm.append_left _ (flatMap_append_perm ts _ _).symm))

/-- what the refinement needs from the edge numbering: symmetric, new indices, injective on undirected edges -/
structure EdgeMap (vno : Nat) (ts : List Tri) (mv : Nat → Nat → Nat) : Prop where
  comm : ∀ a b, mv a b = mv b a
  ge : ∀ a b, (a, b) ∈ Topo.symKeys ts → vno ≤ mv a b
  inj : ∀ a b c d, (a, b) ∈ Topo.symKeys ts → (c, d) ∈ Topo.symKeys ts → mv a b = mv c d →
    (a = c ∧ b = d) ∨ (a = d ∧ b = c)

/-- `σ`'s vertex set contains `τ`'s; for triangles with three different vertices each this is equality of the vertex
    sets.  `Props.C11.FaceSimple ts` is `ts.Pairwise fun τ σ => ¬ SameVerts τ σ`. -/
def SameVerts (τ σ : Tri) : Prop :=
  (τ.1 = σ.1 ∨ τ.1 = σ.2.1 ∨ τ.1 = σ.2.2) ∧ (τ.2.1 = σ.1 ∨ τ.2.1 = σ.2.1 ∨ τ.2.1 = σ.2.2) ∧
  (τ.2.2 = σ.1 ∨ τ.2.2 = σ.2.1 ∨ τ.2.2 = σ.2.2)

instance (τ σ : Tri) : Decidable (SameVerts τ σ) := by unfold SameVerts; infer_instance

theorem count_map_inj_on {α β : Type} [BEq α] [LawfulBEq α] [BEq β] [LawfulBEq β] (f : α → β) (l : List α) (s : α)
    (h : ∀ x ∈ l, f x = f s → x = s) : (l.map f).count (f s) = l.count s := by
  rw [List.count_eq_countP, List.countP_map, List.count_eq_countP]
  exact List.countP_congr fun x hx => by
    simp only [Function.comp_apply, beq_iff_eq]
    exact ⟨h x hx, fun e => e ▸ rfl⟩

theorem dirKeys_sub_symKeys (ts : List Tri) : ∀ k ∈ Topo.dirKeys ts, k ∈ Topo.symKeys ts :=
  fun k hk => (Topo.mem_symKeys_iff_dirKeys ts k.1 k.2).mpr (Or.inl hk)

theorem dirEdge_mem_symKeys {ts : List Tri} {τ : Tri} (hτ : τ ∈ ts) {p : Nat × Nat} (hp : p ∈ dirEdges τ) :
    p ∈ Topo.symKeys ts :=
  dirKeys_sub_symKeys ts p (List.mem_flatMap.mpr ⟨τ, hτ, hp⟩)

theorem tri_symKeys {ts : List Tri} {τ : Tri} (hτ : τ ∈ ts) :
    (τ.1, τ.2.1) ∈ Topo.symKeys ts ∧ (τ.2.1, τ.2.2) ∈ Topo.symKeys ts ∧ (τ.2.2, τ.1) ∈ Topo.symKeys ts :=
  ⟨dirEdge_mem_symKeys hτ (by simp [dirEdges]), dirEdge_mem_symKeys hτ (by simp [dirEdges]), dirEdge_mem_symKeys hτ (by simp [dirEdges])⟩

def newVerts (mv : Nat → Nat → Nat) (τ : Tri) : List Nat := [mv τ.1 τ.2.1, mv τ.2.1 τ.2.2, mv τ.2.2 τ.1]

/-- the six pairs in the order of `inner` -/
theorem six_nodup (x y z : Nat) (h0 : x ≠ y) (h1 : y ≠ z) (h2 : z ≠ x) :
    [(x, z), (y, x), (z, y), (x, y), (y, z), (z, x)].Nodup := by
  simp only [List.nodup_cons, List.mem_cons, Prod.mk.injEq, List.not_mem_nil, or_false, List.nodup_nil, true_and,
    and_true, not_false_eq_true]
  omega

theorem innerAll_length (ts : List Tri) (mv : Nat → Nat → Nat) : (ts.flatMap (inner mv)).length = 6 * ts.length := by
  simp only [List.length_flatMap, inner, List.length_cons, List.length_nil, List.map_const', List.sum_replicate_nat,
    Nat.mul_comm]

section
variable {vno : Nat} {ts : List Tri} {mv : Nat → Nat → Nat}

/-- an inner half-edge joins the new vertices of two half-edges `p`, `q` of the parent that cover its vertices -/
theorem mem_inner_cover {τ : Tri} {k : Nat × Nat} (hk : k ∈ inner mv τ) :
    ∃ p q, p ∈ dirEdges τ ∧ q ∈ dirEdges τ ∧ k = (mv p.1 p.2, mv q.1 q.2) ∧
      ∀ v, (v = τ.1 ∨ v = τ.2.1 ∨ v = τ.2.2) → (v = p.1 ∨ v = p.2 ∨ v = q.1 ∨ v = q.2) := by
  simp only [inner, List.mem_cons, List.not_mem_nil, or_false] at hk
  rcases hk with rfl | rfl | rfl | rfl | rfl | rfl <;>
    exact ⟨(_, _), (_, _), by simp [dirEdges], by simp [dirEdges], rfl, fun v hv => by grind⟩

theorem mem_inner_of {τ : Tri} {a b : Nat} (ha : a ∈ newVerts mv τ) (hb : b ∈ newVerts mv τ) (hab : a ≠ b) :
    (a, b) ∈ inner mv τ := by
  simp only [newVerts, inner, List.mem_cons, List.not_mem_nil, or_false, Prod.mk.injEq] at *
  grind

theorem child_verts {τ x : Tri} (hx : x ∈ children mv τ) :
    (x.1 ∈ tverts τ ∨ x.1 ∈ newVerts mv τ) ∧ x.2.1 ∈ newVerts mv τ ∧ x.2.2 ∈ newVerts mv τ := by
  simp only [children, List.mem_cons, List.not_mem_nil, or_false] at hx
  rcases hx with rfl | rfl | rfl | rfl <;> simp [newVerts, tverts]

theorem flat3_eq (ts : List Tri) : flat3 ts = (Topo.dirKeys ts).map Prod.fst := by
  rw [Topo.dirKeys_eq, List.map_flatMap]
  rfl

/-- the vertices of the refined mesh are those of the parent and the new vertices on its half-edges: the first
    components of `dirKeys_refTris_perm` -/
theorem mem_flat3_refTris (v : Nat) :
    v ∈ flat3 (refTris mv ts) ↔ v ∈ flat3 ts ∨ ∃ s ∈ Topo.dirKeys ts, v = mv s.1 s.2 := by
  simp only [flat3_eq, List.mem_map, (dirKeys_refTris_perm mv ts).mem_iff, List.mem_append]
  constructor
  · rintro ⟨k, (⟨s, hs, rfl⟩ | ⟨s, hs, rfl⟩ | hk), rfl⟩
    · exact Or.inl ⟨s, hs, rfl⟩
    · exact Or.inr ⟨s, hs, rfl⟩
    · obtain ⟨τ, hτ, hk⟩ := List.mem_flatMap.mp hk
      obtain ⟨p, q, hp, _, rfl, _⟩ := mem_inner_cover hk
      exact Or.inr ⟨p, List.mem_flatMap.mpr ⟨τ, hτ, hp⟩, rfl⟩
  · rintro (⟨s, hs, rfl⟩ | ⟨s, hs, rfl⟩)
    · exact ⟨φA mv s, Or.inl ⟨s, hs, rfl⟩, rfl⟩
    · exact ⟨φB mv s, Or.inr (Or.inl ⟨s, hs, rfl⟩), rfl⟩

theorem refTris_inRange (hr : ∀ τ ∈ ts, τ.1 < vno ∧ τ.2.1 < vno ∧ τ.2.2 < vno) (E : Nat)
    (hlt : ∀ a b, (a, b) ∈ Topo.symKeys ts → mv a b < vno + E) :
    ∀ τ ∈ refTris mv ts, τ.1 < vno + E ∧ τ.2.1 < vno + E ∧ τ.2.2 < vno + E := by
  intro c hc
  obtain ⟨τ, hτ, hc⟩ := List.mem_flatMap.mp hc
  obtain ⟨s0, s1, s2⟩ := tri_symKeys hτ
  have l0 := hlt _ _ s0; have l1 := hlt _ _ s1; have l2 := hlt _ _ s2
  obtain ⟨r0, r1, r2⟩ := hr τ hτ
  simp only [children, List.mem_cons, List.not_mem_nil, or_false] at hc
  rcases hc with rfl | rfl | rfl | rfl <;> simp only <;> omega

/-! ### what follows from the edge numbering being symmetric, new and injective -/

variable (hm : EdgeMap vno ts mv)
include hm

theorem φA_inj {s s' : Nat × Nat} (hs : s ∈ Topo.symKeys ts) (hs' : s' ∈ Topo.symKeys ts)
    (h : φA mv s' = φA mv s) : s' = s := by
  obtain ⟨a, b⟩ := s; obtain ⟨c, d⟩ := s'
  simp only [φA, Prod.mk.injEq] at h ⊢
  rcases hm.inj c d a b hs' hs h.2 with h' | h' <;> omega

theorem φB_inj {s s' : Nat × Nat} (hs : s ∈ Topo.symKeys ts) (hs' : s' ∈ Topo.symKeys ts)
    (h : φB mv s' = φB mv s) : s' = s := by
  obtain ⟨a, b⟩ := s; obtain ⟨c, d⟩ := s'
  simp only [φB, Prod.mk.injEq] at h ⊢
  rcases hm.inj c d a b hs' hs h.1 with h' | h' <;> omega

theorem inner_ge {τ : Tri} (hτ : τ ∈ ts) : ∀ k ∈ inner mv τ, vno ≤ k.1 ∧ vno ≤ k.2 := by
  intro k hk
  obtain ⟨p, q, hp, hq, rfl, _⟩ := mem_inner_cover hk
  exact ⟨hm.ge _ _ (dirEdge_mem_symKeys hτ hp), hm.ge _ _ (dirEdge_mem_symKeys hτ hq)⟩

theorem innerAll_ge : ∀ k ∈ ts.flatMap (inner mv), vno ≤ k.1 ∧ vno ≤ k.2 := by
  intro k hk
  obtain ⟨τ, hτ, hk⟩ := List.mem_flatMap.mp hk
  exact inner_ge hm hτ k hk

theorem mv_distinct {τ : Tri} (hτ : τ ∈ ts) (hd : OrientMesh.TriDistinct τ) :
    mv τ.1 τ.2.1 ≠ mv τ.2.1 τ.2.2 ∧ mv τ.2.1 τ.2.2 ≠ mv τ.2.2 τ.1 ∧ mv τ.2.2 τ.1 ≠ mv τ.1 τ.2.1 := by
  obtain ⟨h0, h1, h2⟩ := tri_symKeys hτ
  obtain ⟨d0, d1, d2⟩ := hd
  refine ⟨fun h => ?_, fun h => ?_, fun h => ?_⟩
  · rcases hm.inj _ _ _ _ h0 h1 h with h' | h' <;> omega
  · rcases hm.inj _ _ _ _ h1 h2 h with h' | h' <;> omega
  · rcases hm.inj _ _ _ _ h2 h0 h with h' | h' <;> omega

theorem inner_common {τ σ : Tri} (hτ : τ ∈ ts) (hσ : σ ∈ ts) {k : Nat × Nat}
    (h1 : k ∈ inner mv τ) (h2 : k ∈ inner mv σ) : SameVerts τ σ := by
  obtain ⟨p, q, hp, hq, rfl, hcov⟩ := mem_inner_cover h1
  obtain ⟨p', q', hp', hq', hk, _⟩ := mem_inner_cover h2
  simp only [Prod.mk.injEq] at hk
  -- an edge of `τ` with the same new vertex as an edge of `σ` is that edge, so its end points are vertices of `σ`
  have key : ∀ p p' : Nat × Nat, p ∈ dirEdges τ → p' ∈ dirEdges σ → mv p.1 p.2 = mv p'.1 p'.2 →
      (p.1 = σ.1 ∨ p.1 = σ.2.1 ∨ p.1 = σ.2.2) ∧ (p.2 = σ.1 ∨ p.2 = σ.2.1 ∨ p.2 = σ.2.2) := by
    intro p p' hp hp' h
    obtain ⟨v1, v2⟩ := by simpa [tverts] using verts_of_dirEdge hp'
    rcases hm.inj _ _ _ _ (dirEdge_mem_symKeys hτ hp) (dirEdge_mem_symKeys hσ hp') h with ⟨e1, e2⟩ | ⟨e1, e2⟩ <;>
      rw [e1, e2]
    · exact ⟨v1, v2⟩
    · exact ⟨v2, v1⟩
  have P := key p p' hp hp' hk.1
  have Q := key q q' hq hq' hk.2
  have hv : ∀ v, (v = τ.1 ∨ v = τ.2.1 ∨ v = τ.2.2) → (v = σ.1 ∨ v = σ.2.1 ∨ v = σ.2.2) := by
    intro v hv
    rcases hcov v hv with h | h | h | h <;> rw [h]
    exacts [P.1, P.2, Q.1, Q.2]
  exact ⟨hv _ (Or.inl rfl), hv _ (Or.inr (Or.inl rfl)), hv _ (Or.inr (Or.inr rfl))⟩

theorem innerAll_nodup (hd : ∀ τ ∈ ts, OrientMesh.TriDistinct τ)
    (hs : ts.Pairwise (fun τ σ => ¬ SameVerts τ σ)) : (ts.flatMap (inner mv)).Nodup := by
  rw [List.nodup_flatMap]
  refine ⟨fun τ hτ => ?_, ?_⟩
  · obtain ⟨d0, d1, d2⟩ := mv_distinct hm hτ (hd τ hτ)
    exact six_nodup _ _ _ d0 d1 d2
  · refine List.Pairwise.imp_of_mem ?_ hs
    intro τ σ hτ hσ h
    simp only [Function.onFun, List.disjoint_left]
    intro k h1 h2
    exact h (inner_common hm hτ hσ h1 h2)

/-! ### … and from the parent mesh being in range: the three blocks of keys are told apart by which components are new -/

variable (hr : ∀ τ ∈ ts, τ.1 < vno ∧ τ.2.1 < vno ∧ τ.2.2 < vno)
include hr

/-- a first half is (old,new), a second half (new,old), a key of `J` (new,new) -/
theorem blocks_disjoint {L J : List (Nat × Nat)} (hL : ∀ k ∈ L, k ∈ Topo.symKeys ts)
    (hJ : ∀ k ∈ J, vno ≤ k.1 ∧ vno ≤ k.2) :
    (L.map (φA mv)).Disjoint (L.map (φB mv)) ∧ (L.map (φA mv)).Disjoint J ∧ (L.map (φB mv)).Disjoint J := by
  refine ⟨fun k h1 h2 => ?_, fun k h1 h2 => ?_, fun k h1 h2 => ?_⟩ <;> obtain ⟨s, hs, rfl⟩ := List.mem_map.mp h1 <;>
    have hlt := Topo.symKeys_lt hr (hL s hs)
  · obtain ⟨s', hs', e⟩ := List.mem_map.mp h2
    have := hm.ge _ _ (hL s' hs')
    simp only [φA, φB, Prod.mk.injEq] at e
    omega
  · have := hJ _ h2
    simp only [φA] at this
    omega
  · have := hJ _ h2
    simp only [φB] at this
    omega

/-- multiplicities in a key list of the refined mesh that splits into first halves, second halves and
    (new,new) keys `J` of a key list `L` of the parent mesh: each key is counted in its own block -/
theorem count_decomp {L L' J : List (Nat × Nat)} (hL : ∀ k ∈ L, k ∈ Topo.symKeys ts)
    (hJ : ∀ k ∈ J, vno ≤ k.1 ∧ vno ≤ k.2) (hp : L' ~ L.map (φA mv) ++ (L.map (φB mv) ++ J)) :
    (∀ s ∈ L, L'.count (φA mv s) = L.count s) ∧ (∀ s ∈ L, L'.count (φB mv s) = L.count s) ∧
    (∀ k ∈ J, L'.count k = J.count k) ∧
    (∀ k, L'.count k = J.count k ∨ ∃ s ∈ L, L'.count k = L.count s) := by
  obtain ⟨dAB, dAJ, dBJ⟩ := blocks_disjoint hm hr hL hJ
  have hcount : ∀ k, L'.count k = (L.map (φA mv)).count k + ((L.map (φB mv)).count k + J.count k) := by
    intro k; rw [hp.count_eq, List.count_append, List.count_append]
  have z : ∀ {l : List (Nat × Nat)} {k}, k ∉ l → l.count k = 0 := List.count_eq_zero_of_not_mem
  have hA : ∀ s ∈ L, L'.count (φA mv s) = L.count s := fun s hs => by
    have h := List.mem_map_of_mem (f := φA mv) hs
    rw [hcount, count_map_inj_on _ _ _ (fun x hx e => φA_inj hm (hL s hs) (hL x hx) e), z (dAB h), z (dAJ h)]; omega
  have hB : ∀ s ∈ L, L'.count (φB mv s) = L.count s := fun s hs => by
    have h := List.mem_map_of_mem (f := φB mv) hs
    rw [hcount, count_map_inj_on _ _ _ (fun x hx e => φB_inj hm (hL s hs) (hL x hx) e), z (dAB · h), z (dBJ h)]; omega
  have hO : ∀ k, k ∉ L.map (φA mv) → k ∉ L.map (φB mv) → L'.count k = J.count k := fun k h1 h2 => by
    rw [hcount, z h1, z h2]; omega
  refine ⟨hA, hB, fun k hk => hO k (dAJ · hk) (dBJ · hk), fun k => ?_⟩
  by_cases h1 : k ∈ L.map (φA mv)
  · obtain ⟨s, hs, rfl⟩ := List.mem_map.mp h1
    exact Or.inr ⟨s, hs, hA s hs⟩
  · by_cases h2 : k ∈ L.map (φB mv)
    · obtain ⟨s, hs, rfl⟩ := List.mem_map.mp h2
      exact Or.inr ⟨s, hs, hB s hs⟩
    · exact Or.inl (hO k h1 h2)

/-- a property of multiplicities that holds of `0` holds for the refined key list iff it holds for the parent's and
    for the (new,new) keys: every multiplicity of `L'` is one of `L` or one of `J`, and conversely -/
theorem forall_count_iff {L L' J : List (Nat × Nat)} (hL : ∀ k ∈ L, k ∈ Topo.symKeys ts)
    (hJ : ∀ k ∈ J, vno ≤ k.1 ∧ vno ≤ k.2) (hp : L' ~ L.map (φA mv) ++ (L.map (φB mv) ++ J)) (P : Nat → Prop)
    (h0 : P 0) : (∀ k, P (L'.count k)) ↔ (∀ k, P (L.count k)) ∧ ∀ k, P (J.count k) := by
  obtain ⟨hA, -, hO, hcases⟩ := count_decomp hm hr hL hJ hp
  constructor
  · intro h
    refine ⟨fun k => ?_, fun k => ?_⟩
    · by_cases hk : k ∈ L
      · rw [← hA k hk]; exact h _
      · rw [List.count_eq_zero_of_not_mem hk]; exact h0
    · by_cases hk : k ∈ J
      · rw [← hO k hk]; exact h _
      · rw [List.count_eq_zero_of_not_mem hk]; exact h0
  · rintro ⟨h1, h2⟩ k
    obtain e | ⟨s, -, e⟩ := hcases k
    · rw [e]; exact h2 k
    · rw [e]; exact h1 s

theorem forall_count_symKeys_refTris (P : Nat → Prop) (h0 : P 0) :
    (∀ k, P ((Topo.symKeys (refTris mv ts)).count k)) ↔
      (∀ k, P ((Topo.symKeys ts).count k)) ∧ ∀ k, P (2 * (ts.flatMap (inner mv)).count k) := by
  rw [forall_count_iff hm hr (L := Topo.symKeys ts) (fun k hk => hk)
    (fun k hk => by rcases List.mem_append.mp hk with h | h <;> exact innerAll_ge hm k h)
    (symKeys_refTris_perm mv hm.comm ts) P h0]
  simp only [List.count_append, ← Nat.two_mul]

theorem isClosed_refTris : Topo.isClosed (refTris mv ts) = Topo.isClosed ts := by
  rw [Bool.eq_iff_iff, Topo.isClosed_iff, Topo.isClosed_iff,
    forall_count_symKeys_refTris hm hr (· ≠ 1) (by decide)]
  exact and_iff_left fun k => by omega

theorem usedVerts_refTris :
    (flat3 (refTris mv ts)).eraseDups.length =
      (flat3 ts).eraseDups.length + ((Topo.dirKeys ts).map fun s => mv s.1 s.2).eraseDups.length := by
  rw [eraseDups_length_congr (m := flat3 ts ++ (Topo.dirKeys ts).map fun s => mv s.1 s.2) fun v => by
    rw [mem_flat3_refTris, List.mem_append, List.mem_map]; simp only [eq_comm], eraseDups_length_append]
  intro v h1 h2
  obtain ⟨τ, hτ, hv⟩ := mem_flat3.mp h1
  obtain ⟨h0, h1', h2'⟩ := hr τ hτ
  obtain ⟨s, hs, rfl⟩ := List.mem_map.mp h2
  have := hm.ge _ _ (dirKeys_sub_symKeys ts s hs)
  rcases hv with h | h | h <;> omega

/-! ### … and from the parent mesh having no degenerate triangle -/

variable (hd : ∀ τ ∈ ts, OrientMesh.TriDistinct τ)
include hd

theorem tri_facts {τ : Tri} (hτ : τ ∈ ts) :
    (τ.1 < vno ∧ τ.2.1 < vno ∧ τ.2.2 < vno) ∧ (τ.1 ≠ τ.2.1 ∧ τ.2.1 ≠ τ.2.2 ∧ τ.2.2 ≠ τ.1) ∧
    (vno ≤ mv τ.1 τ.2.1 ∧ vno ≤ mv τ.2.1 τ.2.2 ∧ vno ≤ mv τ.2.2 τ.1) ∧
    (mv τ.1 τ.2.1 ≠ mv τ.2.1 τ.2.2 ∧ mv τ.2.1 τ.2.2 ≠ mv τ.2.2 τ.1 ∧ mv τ.2.2 τ.1 ≠ mv τ.1 τ.2.1) := by
  obtain ⟨s0, s1, s2⟩ := tri_symKeys hτ
  exact ⟨hr τ hτ, hd τ hτ, ⟨hm.ge _ _ s0, hm.ge _ _ s1, hm.ge _ _ s2⟩, mv_distinct hm hτ (hd τ hτ)⟩

theorem refTris_distinct : ∀ τ ∈ refTris mv ts, OrientMesh.TriDistinct τ := by
  intro c hc
  obtain ⟨τ, hτ, hc⟩ := List.mem_flatMap.mp hc
  obtain ⟨hR, hD, hG, hM⟩ := tri_facts hm hr hd hτ
  simp only [children, List.mem_cons, List.not_mem_nil, or_false] at hc
  rcases hc with rfl | rfl | rfl | rfl <;> simp only [OrientMesh.TriDistinct] <;> omega

theorem children_pairwise {τ : Tri} (hτ : τ ∈ ts) : (children mv τ).Pairwise (fun x y => ¬ SameVerts x y) := by
  obtain ⟨hR, hD, hG, hM⟩ := tri_facts hm hr hd hτ
  simp only [children, List.pairwise_cons, List.mem_cons, List.not_mem_nil, or_false, forall_eq_or_imp, forall_eq,
    SameVerts, IsEmpty.forall_iff, implies_true, List.Pairwise.nil, and_true]
  omega

theorem child_inner {τ : Tri} (hτ : τ ∈ ts) {x : Tri} (hx : x ∈ children mv τ) :
    (x.2.1, x.2.2) ∈ inner mv τ ∧ x.2.1 ≠ x.2.2 ∧ vno ≤ x.2.1 ∧ vno ≤ x.2.2 := by
  obtain ⟨hR, hD, hG, hM⟩ := tri_facts hm hr hd hτ
  simp only [children, List.mem_cons, List.not_mem_nil, or_false] at hx
  rcases hx with rfl | rfl | rfl | rfl <;> refine ⟨by simp [inner], ?_, ?_, ?_⟩ <;> simp only <;> omega

omit hm hd in
/-- a vertex of a child that is not a vertex of the parent is one of its three new vertices -/
theorem pair_mem_inner {σ : Tri} (hσ : σ ∈ ts) {y : Tri} (hy : y ∈ children mv σ) {a b : Nat}
    (ha : a = y.1 ∨ a = y.2.1 ∨ a = y.2.2) (hb : b = y.1 ∨ b = y.2.1 ∨ b = y.2.2)
    (hab : a ≠ b) (hva : vno ≤ a) (hvb : vno ≤ b) : (a, b) ∈ inner mv σ := by
  obtain ⟨h1, h2, h3⟩ := child_verts hy
  obtain ⟨r0, r1, r2⟩ := hr σ hσ
  have key : ∀ v, (v = y.1 ∨ v = y.2.1 ∨ v = y.2.2) → vno ≤ v → v ∈ newVerts mv σ := by
    rintro v (rfl | rfl | rfl) hv
    · refine h1.resolve_left fun h => ?_
      simp only [tverts, List.mem_cons, List.not_mem_nil, or_false] at h
      omega
    · exact h2
    · exact h3
  exact mem_inner_of (key a ha hva) (key b hb hvb) hab

/-! ### … and no repeated face -/

variable (hs : ts.Pairwise (fun τ σ => ¬ SameVerts τ σ))
include hs

theorem isManifold_refTris : Topo.isManifold (refTris mv ts) = Topo.isManifold ts := by
  have hI := List.nodup_iff_count_le_one.mp (innerAll_nodup hm hd hs)
  rw [Bool.eq_iff_iff, Topo.isManifold_iff, Topo.isManifold_iff,
    forall_count_symKeys_refTris hm hr (· ≤ 2) (by decide)]
  exact and_iff_left fun k => by have := hI k; omega

theorem isOriented_refTris : Topo.isOriented (refTris mv ts) = Topo.isOriented ts := by
  have hI := List.nodup_iff_count_le_one.mp (innerAll_nodup hm hd hs)
  have hne : refTris mv ts ≠ [] ↔ ts ≠ [] := by
    rw [← List.length_pos_iff, ← List.length_pos_iff, refTris_length]; omega
  rw [Bool.eq_iff_iff, Topo.isOriented_iff, Topo.isOriented_iff, hne,
    forall_count_iff hm hr (dirKeys_sub_symKeys ts) (innerAll_ge hm) (dirKeys_refTris_perm mv ts) (· ≤ 1)
      (by decide)]
  exact and_congr_right fun _ => and_iff_left hI

/-- `nnz(adj_sym)` of the refined mesh: every stored key splits in two, plus six inner keys per triangle -/
theorem nnz_refTris :
    (Topo.symKeys (refTris mv ts)).eraseDups.length = 2 * (Topo.symKeys ts).eraseDups.length + 6 * ts.length := by
  obtain ⟨dAB, dAJ, dBJ⟩ := blocks_disjoint hm hr (L := Topo.symKeys ts) (fun _ h => h) (innerAll_ge hm)
  -- the refined keys have the members of the three blocks; the blocks are disjoint; the two maps are injective and the
  -- inner list has no repetition
  rw [eraseDups_length_congr (m := (Topo.symKeys ts).map (φA mv) ++ ((Topo.symKeys ts).map (φB mv) ++
      ts.flatMap (inner mv))) fun k => by
        rw [(symKeys_refTris_perm mv hm.comm ts).mem_iff]; simp only [List.mem_append, or_self]]
  rw [eraseDups_length_append (List.disjoint_append_right.mpr ⟨dAB, dAJ⟩), eraseDups_length_append dBJ]
  rw [eraseDups_length_map_inj fun x hx y hy h => φA_inj hm hy hx h,
    eraseDups_length_map_inj fun x hx y hy h => φB_inj hm hy hx h,
    eraseDups_length_eq (innerAll_nodup hm hd hs) fun _ => Iff.rfl, innerAll_length]
  omega

theorem refTris_faceSimple : (refTris mv ts).Pairwise (fun τ σ => ¬ SameVerts τ σ) := by
  rw [refTris, List.pairwise_flatMap]
  refine ⟨fun τ hτ => children_pairwise hm hr hd hτ, ?_⟩
  refine List.Pairwise.imp_of_mem ?_ hs
  intro τ σ hτ hσ hne x hx y hy hsv
  obtain ⟨hin, hxne, hg1, hg2⟩ := child_inner hm hr hd hτ hx
  have hin' : (x.2.1, x.2.2) ∈ inner mv σ := pair_mem_inner hr hσ hy hsv.2.1 hsv.2.2 hxne hg1 hg2
  exact hne (inner_common hm hτ hσ hin hin')

end

theorem edgeVertex_edgeMap (vno : Nat) (ts : List Tri) : EdgeMap vno ts (edgeVertex (edgeList ts) vno) where
  comm := edgeVertex_comm _ _
  ge := by
    intro a b h
    obtain ⟨k, _, _, hev⟩ := edgeVertex_of_symKeys vno h
    omega
  inj := by
    intro a b c d h1 h2 he
    obtain ⟨k, hk, hg, hev⟩ := edgeVertex_of_symKeys vno h1
    obtain ⟨k', hk', hg', hev'⟩ := edgeVertex_of_symKeys vno h2
    have hkk : k = k' := by omega
    subst hkk
    -- the same sorted pair: the same edge, in the same or the opposite direction
    rcases und_eq_und.1 (show und (a, b) = und (c, d) from hg.symm.trans hg') with h | h
    · exact Or.inl (Prod.mk.inj h)
    · exact Or.inr (Prod.mk.inj h)

/-- the new vertices on the half-edges of the mesh take `E` different values, `E` the number of edges -/
theorem edgeVertex_image_card (vno : Nat) (ts : List Tri) :
    ((Topo.dirKeys ts).map fun s => edgeVertex (edgeList ts) vno s.1 s.2).eraseDups.length = (edgeList ts).length := by
  have nd : ((List.range (edgeList ts).length).map (vno + ·)).Nodup :=
    List.Nodup.map_on (fun x _ y _ h => by omega) List.nodup_range
  rw [eraseDups_length_eq nd, List.length_map, List.length_range]
  intro v
  simp only [List.mem_map, List.mem_range]
  constructor
  · rintro ⟨k, hk, rfl⟩
    have hmem := mem_edgeList.mp (List.getElem_mem hk)
    have hev := edgeVertex_getElem (edgeList_nodup ts) vno k hk hmem.1
    rcases (Topo.mem_symKeys_iff_dirKeys ts _ _).mp hmem.2 with h | h
    · exact ⟨_, h, hev⟩
    · exact ⟨_, h, (edgeVertex_comm _ _ _ _).trans hev⟩
  · rintro ⟨s, hs, rfl⟩
    obtain ⟨k, hk, _, hev⟩ :=
      edgeVertex_of_symKeys vno (a := s.1) (b := s.2) (dirKeys_sub_symKeys ts s hs)
    exact ⟨k, hk, hev.symm⟩

theorem symKeys_ne {ts : List Tri} (hd : ∀ τ ∈ ts, OrientMesh.TriDistinct τ) {k : Nat × Nat}
    (hk : k ∈ Topo.symKeys ts) : k.1 ≠ k.2 := by
  rcases (Topo.mem_symKeys_iff_dirKeys ts k.1 k.2).mp hk with h | h <;> obtain ⟨τ, hτ, h⟩ := List.mem_flatMap.mp h
  · exact (hd τ hτ).ne_of_dirEdge h
  · exact ((hd τ hτ).ne_of_dirEdge h).symm

/-- without degenerate triangles `adj_sym` stores every edge in both directions: `nnz = 2 E` -/
theorem nnz_eq_two_edges {ts : List Tri} (hd : ∀ τ ∈ ts, OrientMesh.TriDistinct τ) :
    (Topo.symKeys ts).eraseDups.length = 2 * (edgeList ts).length := by
  rw [Lemmas.length_symm_nodup _ (List.nodup_eraseDups _)
    (fun a b h => List.mem_eraseDups.mpr (Topo.mem_symKeys_swap ts a b (List.mem_eraseDups.mp h)))
    (fun a h => symKeys_ne hd (List.mem_eraseDups.mp h) rfl)]
  congr 1
  apply List.length_eq_of_nodup_of_mem_iff ((List.nodup_eraseDups _).filter _) (edgeList_nodup ts)
  intro k
  rw [List.mem_filter, List.mem_eraseDups, mem_edgeList, decide_eq_true_eq]
  exact ⟨fun h => ⟨by omega, h.1⟩, fun h => ⟨h.2, by have := symKeys_ne hd h.2; omega⟩⟩

end Refine

end LapyVerif
