import LapyVerif.Lemmas.RealInst
import LapyVerif.Lemmas.OrientFirstColumn
import LapyVerif.Lemmas.MeasureLemmas
/-
  C10 — `orient_` makes an orientable manifold mesh consistently oriented, flips nothing else, and is idempotent.
  Model: `Orient.consistent` (phase 1: the flood over the signed neighbour matrix) and `Orient.orient` (phase 2: the
  global flip by the sign of the volume).  The property itself is `orient_spec_partial` (section 4).
  Sections 1–3 hold for every triangle list: what `orient_` may change, counts and volume, rejection of non-manifold
  input.  Section 4 is conditional: distinct vertices per triangle, `EdgeManifold`, `Orientable`,
  `EveryTriangleHasNeighbour`, and two provisos the code needs, `ts ≠ []` and "not the two-triangle pillow"
  (see `consistent_oriented_partial`).  The bold words `pair_sign`, `flood_inv`, `flood_progress`, `flood_terminates`,
  `consistent_oriented`, `orient_idempotent` in docstrings are the clauses of property C10 (`pair_sign` and
  `flood_progress` are also the names of the theorems that prove them; the others are not Lean names).
  Vocabulary: the hypotheses here are stated on vertices (`verts`, `EdgeManifold`, `ShareEdge`); the lemma files work on
  the undirected edges of `Lemmas/TriEdges` (`MeshOK`, `Share`, `AllShare`); `meshOK_of`, `allShare_of` convert.
-/
namespace LapyVerif.Props.C10
open Orient Topo OrientLemmas OrientMesh

/-! ## 1. what `orient_` may change -/

/-- the vertices of a triangle as a list (compared up to permutation = as a multiset) -/
def verts (τ : Tri) : List Nat := [τ.1, τ.2.1, τ.2.2]

theorem swap01_vertexSet (τ : Tri) : (verts (swap01 τ)).Perm (verts τ) := List.Perm.swap _ _ _
theorem swap12_vertexSet (τ : Tri) : (verts (swap12 τ)).Perm (verts τ) := (List.Perm.swap _ _ _).cons _

/-- Phase 1 only flips (swap01) a set of triangles, in place, and returns the size of that set. -/
theorem consistent_flipBy {ts ts' : List Tri} {n : Nat} (h : consistent ts = some (some (ts', n))) :
    ∃ f : Nat → Bool, ts' = flipBy f ts ∧ n = flipCount f ts := by
  rw [consistent_eq] at h
  split at h
  · cases h; exact ⟨fun _ => false, (flipBy_false ts).symm, by simp [flipCount]⟩
  · split at h
    · cases h
    · rename_i hchk
      obtain ⟨v, hv, hvn⟩ := Option.map_eq_some_iff.1 h
      cases hvn
      have hne : ts ≠ [] := by
        rintro rfl
        exact hchk (by decide)
      -- the flood returns a vector whose indices are a sublist of `range tdim`, and `tdim ≤ ts.length`
      have hsub : (negOf v).Sublist (List.range ts.length) :=
        ((List.filter_sublist.map _).trans (flood_idxOK (column_idxOK _ _ _) hv)).trans
          (List.range_sublist.2 (tdim_le hne))
      refine ⟨_, rfl, List.length_eq_of_nodup_of_mem_iff (hsub.nodup List.nodup_range) (List.nodup_range.filter _) fun k => ?_⟩
      rw [List.mem_filter, decide_eq_true_iff, List.mem_range]
      exact ⟨fun hk => ⟨List.mem_range.1 (hsub.subset hk), hk⟩, fun hk => hk.2⟩

/-- `consistent` keeps the number and the order of the triangles; triangle `k` is either untouched or has its first
    two vertices swapped (so its vertex set is unchanged), and `n` counts the swapped ones. -/
theorem consistent_preserves {ts ts' : List Tri} {n : Nat} (h : consistent ts = some (some (ts', n))) :
    ts'.length = ts.length ∧
    ∃ f : Nat → Bool, (∀ k (h : k < ts.length) (h' : k < ts'.length), ts'[k] = if f k then swap01 ts[k] else ts[k]) ∧
      n = ((List.range ts.length).filter f).length := by
  obtain ⟨f, rfl, rfl⟩ := consistent_flipBy h
  exact ⟨flipBy_length f ts, f, fun k hk _ => flipBy_getElem f ts k hk, rfl⟩

theorem consistent_vertexSet {ts ts' : List Tri} {n : Nat} (h : consistent ts = some (some (ts', n)))
    (k : Nat) (hk : k < ts.length) (hk' : k < ts'.length) : (verts ts'[k]).Perm (verts ts[k]) := by
  obtain ⟨_, f, hf, _⟩ := consistent_preserves h
  rw [hf k hk hk']
  split
  · exact swap01_vertexSet _
  · exact List.Perm.refl _

section orient
set_option linter.unusedSectionVars false
variable {K : Type} [Zero K] [Add K] [Sub K] [Mul K] [Div K] [Neg K] [NatCast K] [HasSqrt K]
variable [LT K] [DecidableRel (α := K) (· < ·)]

theorem orient_ok (vtx : Nat → V3 K) {ts ts' : List Tri} {n : Nat} (h : orient vtx ts = .ok ts' n) :
    ∃ ts1 fl vol, consistent ts = some (some (ts1, fl)) ∧ Measures.volume vtx ts1 = .ok vol ∧
      if vol < 0 then ts' = ts1.map swap12 ∧ n = ts1.length - fl else ts' = ts1 ∧ n = fl := by
  unfold orient at h
  split at h
  · cases h
  · cases h
  · rename_i ts1 fl hc
    split at h
    · cases h
    · rename_i vol hvol
      refine ⟨ts1, fl, vol, hc, hvol, ?_⟩
      split at h <;> rename_i hneg <;> cases h
      · rw [if_pos hneg]; exact ⟨rfl, rfl⟩
      · rw [if_neg hneg]; exact ⟨rfl, rfl⟩

/-- `orient` returns only a triangle list and a count (`Result.ok ts' n`): the vertex function is not part of the
    result.  The list is the input with a set `f` of triangles flipped (swap01) and then, if `g`, every triangle
    reversed (swap12); the count is `|f|`, or `#triangles − |f|` after the global reversal. -/
theorem orient_shape (vtx : Nat → V3 K) {ts ts' : List Tri} {n : Nat} (h : orient vtx ts = .ok ts' n) :
    ∃ (f : Nat → Bool) (g : Bool), ts' = (flipBy f ts).map (if g then swap12 else id) ∧
      n = if g then ts.length - flipCount f ts else flipCount f ts := by
  obtain ⟨ts1, fl, vol, hc, -, hif⟩ := orient_ok vtx h
  obtain ⟨f, rfl, rfl⟩ := consistent_flipBy hc
  split at hif
  · obtain ⟨rfl, rfl⟩ := hif
    exact ⟨f, true, rfl, by simp [flipBy_length]⟩
  · obtain ⟨rfl, rfl⟩ := hif
    exact ⟨f, false, by simp, rfl⟩

theorem orient_preserves (vtx : Nat → V3 K) {ts ts' : List Tri} {n : Nat} (h : orient vtx ts = .ok ts' n) :
    ts'.length = ts.length ∧
    ∀ k (hk : k < ts.length) (hk' : k < ts'.length),
      ts'[k] = ts[k] ∨ ts'[k] = swap01 ts[k] ∨ ts'[k] = swap12 ts[k] ∨ ts'[k] = swap12 (swap01 ts[k]) := by
  obtain ⟨f, g, rfl, _⟩ := orient_shape vtx h
  refine ⟨by simp [flipBy_length], fun k hk hk' => ?_⟩
  rw [List.getElem_map, flipBy_getElem f ts k hk]
  cases g <;> cases f k <;> simp

theorem orient_vertexSet (vtx : Nat → V3 K) {ts ts' : List Tri} {n : Nat} (h : orient vtx ts = .ok ts' n)
    (k : Nat) (hk : k < ts.length) (hk' : k < ts'.length) : (verts ts'[k]).Perm (verts ts[k]) := by
  rcases (orient_preserves vtx h).2 k hk hk' with h | h | h | h <;> rw [h]
  · exact swap01_vertexSet _
  · exact swap12_vertexSet _
  · exact (swap12_vertexSet _).trans (swap01_vertexSet _)

/-- `τ'` is a cyclic rotation of `τ` (same winding) -/
def SameWinding (τ τ' : Tri) : Prop := τ' = τ ∨ τ' = (τ.2.1, τ.2.2, τ.1) ∨ τ' = (τ.2.2, τ.1, τ.2.1)
/-- `τ'` has the same vertices in the opposite cyclic order -/
def Reversed (τ τ' : Tri) : Prop := SameWinding (swap01 τ) τ'

theorem not_same_and_reversed {τ τ' : Tri} (hτ : τ.1 ≠ τ.2.1 ∧ τ.2.1 ≠ τ.2.2 ∧ τ.2.2 ≠ τ.1) :
    ¬ (SameWinding τ τ' ∧ Reversed τ τ') := by
  obtain ⟨a, b, c⟩ := τ
  obtain ⟨a', b', c'⟩ := τ'
  simp only [SameWinding, Reversed, swap01, Prod.mk.injEq] at hτ ⊢
  omega

/-- **the returned count** is the number of triangles whose winding differs from before: there is a set `d` of
    indices such that the triangles in `d` come back reversed, the others with the same winding, and `n = |d|`. -/
theorem orient_count (vtx : Nat → V3 K) {ts ts' : List Tri} {n : Nat} (h : orient vtx ts = .ok ts' n) :
    ∃ d : Nat → Bool,
      (∀ k (hk : k < ts.length) (hk' : k < ts'.length),
        if d k = true then Reversed ts[k] ts'[k] else SameWinding ts[k] ts'[k]) ∧
      n = ((List.range ts.length).filter d).length := by
  obtain ⟨f, g, rfl, rfl⟩ := orient_shape vtx h
  refine ⟨fun k => f k != g, fun k hk hk' => ?_, ?_⟩
  · rw [List.getElem_map, flipBy_getElem f ts k hk]
    generalize ts[k] = τ
    obtain ⟨a, b, c⟩ := τ
    cases g <;> cases hf : f k <;> simp [hf, SameWinding, Reversed, swap01, swap12]
  · cases g
    · simp [flipCount]
    · have := List.length_eq_length_filter_add (l := List.range ts.length) f
      simp only [List.length_range] at this
      simp only [flipCount, ↓reduceIte, Bool.bne_true]
      omega

end orient

/-! ## 2. idempotence core, reversal of all triangles, sign of the volume -/

theorem consistent_of_oriented {ts : List Tri} (h : isOriented ts = true) : consistent ts = some (some (ts, 0)) := by
  rw [consistent_eq, if_pos h]

/-- after `orient`, a closed mesh encloses a non-negative volume (and `volume` does not raise) -/
theorem orient_volume_nonneg (vtx : Nat → V3 ℝ) {ts ts' : List Tri} {n : Nat} (h : orient vtx ts = .ok ts' n)
    (hcl : isClosed ts' = true) : ∃ vol, Measures.volume vtx ts' = .ok vol ∧ 0 ≤ vol := by
  obtain ⟨ts1, fl, vol, -, hvol, hif⟩ := orient_ok vtx h
  split at hif
  · rename_i hneg
    obtain ⟨rfl, rfl⟩ := hif
    have hcl1 : isClosed ts1 = true := by rwa [isClosed_map_swap12] at hcl
    obtain ⟨ho, rfl⟩ := Measures.volume_ok_of_closed hcl1 hvol
    refine ⟨_, Measures.volume_of_closed_oriented vtx hcl (by rwa [isOriented_map_swap12]), ?_⟩
    rw [Measures.volumeSum_swap12]
    exact neg_nonneg.2 hneg.le
  · rename_i hneg
    obtain ⟨rfl, rfl⟩ := hif
    exact ⟨vol, hvol, not_lt.1 hneg⟩

/-- second call: if the first call returned an oriented list, the second returns it unchanged with count 0.
    (For a closed result the orientation hypothesis is automatic, see `orient_idempotent_closed`.) -/
theorem orient_idempotent_of_oriented (vtx : Nat → V3 ℝ) {ts ts' : List Tri} {n : Nat} (h : orient vtx ts = .ok ts' n)
    (hor : isOriented ts' = true) : orient vtx ts' = .ok ts' 0 := by
  have hc := consistent_of_oriented hor
  by_cases hcl : isClosed ts' = true
  · obtain ⟨vol, hvol, hpos⟩ := orient_volume_nonneg vtx h hcl
    simp only [orient, hc, hvol]
    rw [if_neg (not_lt.2 hpos)]
  · have hvol := Measures.volume_of_not_closed vtx (Bool.not_eq_true _ ▸ hcl)
    simp only [orient, hc, hvol]
    rw [if_neg (lt_irrefl _)]

/-- what `orient` returns for a closed result is always oriented (otherwise `volume` would have raised) -/
theorem orient_closed_oriented (vtx : Nat → V3 ℝ) {ts ts' : List Tri} {n : Nat} (h : orient vtx ts = .ok ts' n)
    (hcl : isClosed ts' = true) : isOriented ts' = true := by
  obtain ⟨vol, hvol, _⟩ := orient_volume_nonneg vtx h hcl
  exact (Measures.volume_ok_of_closed hcl hvol).1

theorem orient_idempotent_closed (vtx : Nat → V3 ℝ) {ts ts' : List Tri} {n : Nat} (h : orient vtx ts = .ok ts' n)
    (hcl : isClosed ts' = true) : orient vtx ts' = .ok ts' 0 :=
  orient_idempotent_of_oriented vtx h (orient_closed_oriented vtx h hcl)

/-! ## 3. non-manifold edges are rejected -/

theorem countP_le_count_undKeys (ts : List Tri) {a b : Nat} (hab : a ≠ b) :
    (ts.countP fun τ => decide (a ∈ verts τ ∧ b ∈ verts τ)) ≤ (undKeys ts).count (min a b, max a b) := by
  -- triangle by triangle: one with both ends lists the sorted pair at least once
  rw [undKeys, List.count_flatMap, ← List.sum_map_ite_eq_countP]
  refine List.sum_le_sum fun τ _ => ?_
  split
  · next hτ =>
    simp only [decide_eq_true_eq] at hτ
    exact List.count_pos_iff.2 (undEdge_of_verts hab hτ.1 hτ.2)
  · exact Nat.zero_le _

/-- an edge `{a,b}` that lies in three triangles forces two of them to traverse it in the same direction -/
theorem not_oriented_of_three {ts : List Tri} {a b : Nat} (hab : a ≠ b)
    (h3 : 3 ≤ ts.countP fun τ => decide (a ∈ verts τ ∧ b ∈ verts τ)) : isOriented ts = false := by
  rw [← Bool.not_eq_true, isOriented_iff]
  rintro ⟨_, hc⟩
  have h := countP_le_count_undKeys ts hab
  rw [show (min a b, max a b) = und (a, b) from rfl, count_undKeys ts hab] at h
  have := hc (a, b)
  have := hc (b, a)
  simp only [Prod.swap_prod_mk] at h
  omega

/-- `ValueError`: an edge contained in three or more triangles makes phase 1 (hence `orient_`) raise. -/
theorem nonmanifold_rejected {ts : List Tri} {a b : Nat} (hab : a ≠ b)
    (h3 : 3 ≤ ts.countP fun τ => decide (a ∈ verts τ ∧ b ∈ verts τ)) : consistent ts = some none := by
  have hcnt := Nat.le_trans h3 (countP_le_count_undKeys ts hab)
  have hmax : 3 ≤ maxL ((edgeCounts (halfEdgeRows ts)).map (·.2)) := by
    refine Nat.le_trans hcnt (Lemmas.le_maxL _ _ ?_)
    rw [mem_edgeCounts_snd]
    exact ⟨_, List.count_pos_iff.1 (by omega), rfl⟩
  rw [consistent_eq, if_neg (by simp [not_oriented_of_three hab h3]), if_pos]
  simp only [Bool.or_eq_true, bne_iff_ne, ne_eq]
  left; omega

theorem orient_nonmanifold_rejected {K : Type} [Zero K] [Add K] [Sub K] [Mul K] [Div K] [Neg K] [NatCast K] [HasSqrt K]
    [LT K] [DecidableRel (α := K) (· < ·)] (vtx : Nat → V3 K) {ts : List Tri} {a b : Nat} (hab : a ≠ b)
    (h3 : 3 ≤ ts.countP fun τ => decide (a ∈ verts τ ∧ b ∈ verts τ)) : orient vtx ts = .valueError := by
  simp [orient, nonmanifold_rejected hab h3]

/-! ## 4. the flood orients every edge-manifold orientable mesh -/

/-- every undirected edge `{a,b}` lies in at most two triangles (the complement of the hypothesis of
    `nonmanifold_rejected`) -/
def EdgeManifold (ts : List Tri) : Prop :=
  ∀ a b, a ≠ b → ts.countP (fun τ => decide (a ∈ verts τ ∧ b ∈ verts τ)) ≤ 2

/-- flipping (swap01) the triangles selected by some `s` gives an oriented list -/
def Orientable (ts : List Tri) : Prop := ∃ s : Nat → Bool, isOriented (flipBy s ts) = true

/-- each triangle shares an edge with another one -/
def EveryTriangleHasNeighbour (ts : List Tri) : Prop :=
  ∀ A (hA : A < ts.length), ∃ B, ∃ hB : B < ts.length, B ≠ A ∧
    ∃ a b, a ≠ b ∧ a ∈ verts ts[A] ∧ b ∈ verts ts[A] ∧ a ∈ verts ts[B] ∧ b ∈ verts ts[B]

/-- triangles `A` and `B` have a common edge -/
def ShareEdge (ts : List Tri) (A B : Nat) : Prop :=
  ∃ (hA : A < ts.length) (hB : B < ts.length) (a b : Nat),
    a ≠ b ∧ a ∈ verts ts[A] ∧ b ∈ verts ts[A] ∧ a ∈ verts ts[B] ∧ b ∈ verts ts[B]

theorem manifold_of_edgeManifold {ts : List Tri} (hd : ∀ τ ∈ ts, TriDistinct τ) (hm : EdgeManifold ts)
    (e : Nat × Nat) : (undKeys ts).count e ≤ 2 := by
  -- a proper triangle lists a sorted pair once if it has both ends, and no other pair
  rw [undKeys, List.count_flatMap_eq_countP ts undEdges e
    (fun τ => decide (e.1 < e.2 ∧ e.1 ∈ verts τ ∧ e.2 ∈ verts τ)) fun τ hτ => by
      rw [(undEdges_nodup (hd τ hτ)).count]
      exact if_congr ((mem_undEdges_iff (hd τ hτ) e).trans (decide_eq_true_iff).symm) rfl rfl]
  by_cases he : e.1 < e.2
  · simpa only [he, true_and] using hm e.1 e.2 (Nat.ne_of_lt he)
  · simp [he]

theorem share_of_shareEdge {ts : List Tri} {A B : Nat} (h : ShareEdge ts A B) : Share ts A B := by
  obtain ⟨hA, hB, a, b, hab, h1, h2, h3, h4⟩ := h
  exact ⟨hA, hB, _, undEdge_of_verts hab h1 h2, undEdge_of_verts hab h3 h4⟩

theorem shareEdge_of_share {ts : List Tri} (hd : ∀ τ ∈ ts, TriDistinct τ) {A B : Nat} (h : Share ts A B) :
    ShareEdge ts A B := by
  obtain ⟨hA, hB, e, h1, h2⟩ := h
  exact ⟨hA, hB, e.1, e.2, Nat.ne_of_lt ((mem_undEdges_iff (hd _ (List.getElem_mem _)) e).1 h1).1, (verts_of_undEdge h1).1, (verts_of_undEdge h1).2,
    (verts_of_undEdge h2).1, (verts_of_undEdge h2).2⟩

theorem meshOK_of {ts : List Tri} (hd : ∀ τ ∈ ts, TriDistinct τ) (hm : EdgeManifold ts) (hne : ts ≠ []) {s : Nat → Bool}
    (hs : isOriented (flipBy s ts) = true) : MeshOK ts s where
  distinct := hd
  manifold := manifold_of_edgeManifold hd hm
  oriented := (isOriented_flipBy_iff hd hne s).1 hs

theorem allShare_of {ts : List Tri} (h : EveryTriangleHasNeighbour ts) : AllShare ts := by
  intro A hA
  obtain ⟨B, hB, hne, a, b, hab, h1, h2, h3, h4⟩ := h A hA
  exact ⟨B, hne, share_of_shareEdge ⟨hA, hB, a, b, hab, h1, h2, h3, h4⟩⟩

/-- **clause `pair_sign`.**  Every entry `(A, B, w)` of the signed neighbour list has `w = +1` iff the orientation witness
    flips both or neither of `A`, `B`; moreover `A ≠ B` are indices of triangles with a common edge. -/
theorem pair_sign {ts : List Tri} (hd : ∀ τ ∈ ts, TriDistinct τ) (hm : EdgeManifold ts) (hne : ts ≠ []) {s : Nat → Bool}
    (hs : isOriented (flipBy s ts) = true) {A B : Nat} {w : Int}
    (hp : (A, B, w) ∈ neighbourPairs (halfEdgeRows ts) (edgeCounts (halfEdgeRows ts))) :
    w = (if s A = s B then 1 else -1) ∧ A ≠ B ∧ ShareEdge ts A B := by
  have h := meshOK_of hd hm hne hs
  have hw := pair_weight h hp
  obtain ⟨h1, h2⟩ := share_of_pair hd hp
  refine ⟨?_, h1, shareEdge_of_share hd h2⟩
  simp only [sgnOf] at hw
  rw [hw]
  cases s A <;> cases s B <;> simp

/-- conversely every pair of different triangles with a common edge is in the neighbour list -/
theorem pair_complete {ts : List Tri} (hd : ∀ τ ∈ ts, TriDistinct τ) (hm : EdgeManifold ts) (hne : ts ≠ []) {s : Nat → Bool}
    (hs : isOriented (flipBy s ts) = true) {A B : Nat} (hAB : A ≠ B) (hsh : ShareEdge ts A B) :
    ∃ w, (A, B, w) ∈ neighbourPairs (halfEdgeRows ts) (edgeCounts (halfEdgeRows ts)) ∨
         (B, A, w) ∈ neighbourPairs (halfEdgeRows ts) (edgeCounts (halfEdgeRows ts)) := by
  obtain ⟨⟨p, hp, hk⟩, _⟩ := adj_of_share (manifold_of_edgeManifold hd hm) hAB (share_of_shareEdge hsh)
  obtain ⟨p1, p2, w⟩ := p
  rcases hk with ⟨rfl, rfl⟩ | ⟨rfl, rfl⟩
  · exact ⟨w, Or.inl hp⟩
  · exact ⟨w, Or.inr hp⟩

open OrientFlood OrientFirstColumn

section flood
variable {ts : List Tri} {s : Nat → Bool}

/-- **clause `flood_inv`, as it holds for the model.**
    The statement "every stored entry is `(k, ε)` with `ε = ±1`" is false for the first column and right after a
    re-seeding: `tmat[:,seed]` stores `±3` for a triangle that shares all three edges with the seed (e.g.
    `[(0,1,2),(0,2,1)]` gives column `[(0,1),(1,3)]`).  What holds is: with `σ k = -1` if `s k` else `+1`, and `g` a
    sign that is constant along neighbour pairs (it is `σ seed` on the component of each seed),
    * the first column has `Inv σ g`, i.e. every stored value `x` at `k` has the sign `σ k * g k` (so is non-zero);
    * `step` preserves `Inv σ g`, produces only values `±1`, and keeps every index already stored — no cancellation;
    * re-seeding at an unreached `seed` when the support is closed under adjacency preserves `Inv` for an updated `g`. -/
theorem flood_inv_partial (h : MeshOK ts s) :
    (Inv (sgnOf s) (fun _ => sgnOf s 0) (column ts.length (pairsOf ts) 0)) ∧
    (∀ g v, Gauge (pairsOf ts) g → Inv (sgnOf s) g v → IdxOK ts.length v →
      Inv (sgnOf s) g (step ts.length (pairsOf ts) v) ∧ Norm (step ts.length (pairsOf ts) v) ∧
      supp v ⊆ supp (step ts.length (pairsOf ts) v)) ∧
    (∀ g v seed, Gauge (pairsOf ts) g → Inv (sgnOf s) g v → IdxOK ts.length v → Closed (pairsOf ts) v →
      seed < ts.length → seed ∉ supp v →
      ∃ g', Gauge (pairsOf ts) g' ∧ Inv (sgnOf s) g' (addVec ts.length v (column ts.length (pairsOf ts) seed)) ∧
        v.length + 1 ≤ (addVec ts.length v (column ts.length (pairsOf ts) seed)).length) := by
  have hP := pairsOK h
  refine ⟨?_, ?_, ?_⟩
  · rintro ⟨k, x⟩ he
    have hpos : 0 < ts.length := by
      have := (column_idxOK _ _ _).lt he; simp only at this; omega
    exact column_pos hP hpos he
  · intro g v hg hinv hv
    exact ⟨(step_pos_norm (hP.mul hg) hinv).1, (step_pos_norm (hP.mul hg) hinv).2, supp_subset_step (hP.mul hg) hinv hv⟩
  · intro g v seed hg hinv hv hcl hseed hns
    exact reseed hP hg hinv hv hcl hseed hns

/-- **clause `flood_progress`.**  A step that does not enlarge the stored vector leaves a support closed under adjacency
    (so the next round re-seeds in a new component), and a step never shrinks it. -/
theorem flood_progress (h : MeshOK ts s) {g : Nat → Int} {v : SVec} (hg : Gauge (pairsOf ts) g)
    (hinv : Inv (sgnOf s) g v) (hv : IdxOK ts.length v) :
    v.length ≤ (step ts.length (pairsOf ts) v).length ∧
    ((step ts.length (pairsOf ts) v).length = v.length → Closed (pairsOf ts) (step ts.length (pairsOf ts) v)) :=
  step_progress ((pairsOK h).mul hg) hinv hv

/-- **clause `flood_terminates`** with the proviso on the first column.  With the fuel `2*tdim+2` the flood returns a vector
    whose support is all of `range tdim`, whose values are `±1` and equal `σ k * g k` for a sign `g` constant along
    neighbour pairs (`tdim = ts.length` when every triangle has a neighbour: `OrientMesh.tdim_eq`).
    Proviso `h0`: the first column is not a full vector with an entry `≠ ±1` (then the loop body never runs). -/
theorem flood_terminates_of_column (h : MeshOK ts s) (hne : ts ≠ [])
    (h0 : Norm (column ts.length (pairsOf ts) 0) ∨ (column ts.length (pairsOf ts) 0).length < ts.length) :
    ∃ v g, flood ts.length (pairsOf ts) (2 * ts.length + 2) (column ts.length (pairsOf ts) 0) 0 = some v ∧
      v.map (·.1) = List.range ts.length ∧ Gauge (pairsOf ts) g ∧ ∀ e ∈ v, e.2 = sgnOf s e.1 * g e.1 :=
  flood_spec (pairsOK h) (List.length_pos_iff.2 hne) h0

/-- The same for every mesh except the same-vertex two-triangle pillow (for which the
    returned vector is `[(0,1),(1,±3)]`, not `±1`-valued: see the counterexample in section 5). -/
theorem flood_terminates_partial (h : MeshOK ts s) (hne : ts ≠ [])
    (hpillow : ∀ (h2 : ts.length = 2), ∃ x ∈ verts (ts[0]'(by omega)), x ∉ verts (ts[1]'(by omega))) :
    ∃ v g, flood ts.length (pairsOf ts) (2 * ts.length + 2) (column ts.length (pairsOf ts) 0) 0 = some v ∧
      v.map (·.1) = List.range ts.length ∧ Gauge (pairsOf ts) g ∧ ∀ e ∈ v, e.2 = sgnOf s e.1 * g e.1 :=
  flood_terminates_of_column h hne (column0_ok h hpillow)

end flood

/-- the version with the proviso stated on the first column -/
theorem consistent_oriented_of_column {ts : List Tri} (hd : ∀ τ ∈ ts, TriDistinct τ) (hm : EdgeManifold ts)
    (hor : Orientable ts) (hall : EveryTriangleHasNeighbour ts) (hne : ts ≠ [])
    (h0 : Norm (column ts.length (pairsOf ts) 0) ∨ (column ts.length (pairsOf ts) 0).length < ts.length) :
    ∃ ts' n, consistent ts = some (some (ts', n)) ∧ isOriented ts' = true := by
  obtain ⟨s, hs⟩ := hor
  exact consistent_oriented_core (meshOK_of hd hm hne hs) hne (allShare_of hall) h0

/-- **clause `consistent_oriented`**, with two hypotheses more than the clause has:
    * `hne : ts ≠ []` — `consistent [] = some none`: an empty mesh raises `ValueError` (`max(c)` of nothing is not 2);
    * `hpillow`: the mesh is not the two-triangle "pillow" whose triangles have the same three vertices.
    COUNTEREXAMPLE without `hpillow`: `ts = [(0,1,2),(0,1,2)]` has distinct vertices per triangle, every edge in
    exactly two triangles, is orientable (flip one of the two) and each triangle has a neighbour, but `tdim = 2` and
    the first column `tmat[:,0]` is `[(0,1),(1,-3)]`, already of length `tdim`; the `while` body (with its `np.sign`)
    never runs, `v == -1` selects nothing, and `consistent` returns the input unchanged with count 0 — not oriented
    (`example` in section 5).  With `[(0,1,2),(1,0,2)]` (already oriented) the early exit hides the problem. -/
theorem consistent_oriented_partial {ts : List Tri} (hd : ∀ τ ∈ ts, TriDistinct τ) (hm : EdgeManifold ts)
    (hor : Orientable ts) (hall : EveryTriangleHasNeighbour ts) (hne : ts ≠ [])
    (hpillow : ∀ (h2 : ts.length = 2), ∃ x ∈ verts (ts[0]'(by omega)), x ∉ verts (ts[1]'(by omega))) :
    ∃ ts' n, consistent ts = some (some (ts', n)) ∧ isOriented ts' = true := by
  obtain ⟨s, hs⟩ := hor
  have h := meshOK_of hd hm hne hs
  exact consistent_oriented_core h hne (allShare_of hall) (column0_ok h hpillow)

/-- in particular: every such mesh with at least three triangles -/
theorem consistent_oriented_of_three {ts : List Tri} (hd : ∀ τ ∈ ts, TriDistinct τ) (hm : EdgeManifold ts)
    (hor : Orientable ts) (hall : EveryTriangleHasNeighbour ts) (h3 : 3 ≤ ts.length) :
    ∃ ts' n, consistent ts = some (some (ts', n)) ∧ isOriented ts' = true :=
  consistent_oriented_partial hd hm hor hall (by rintro rfl; simp at h3) (fun h2 => by omega)

/-- **The property C10 for `orient` (over ℝ).**  For an edge-manifold, orientable list of proper triangles in which
    every triangle has a neighbour (any number of components; not empty, not the same-vertex pillow), `orient`
    terminates without error; the result has the same number of triangles, in the same order, each with the same
    vertex set; it is oriented; if it is closed its volume is non-negative; a second call returns it unchanged with
    count 0.  (The vertex function is not part of the result, so the vertex array is untouched by construction; the
    count is characterised by `orient_count`, through `orient_shape`.) -/
theorem orient_spec_partial (vtx : Nat → V3 ℝ) {ts : List Tri} (hd : ∀ τ ∈ ts, TriDistinct τ) (hm : EdgeManifold ts)
    (hor : Orientable ts) (hall : EveryTriangleHasNeighbour ts) (hne : ts ≠ [])
    (hpillow : ∀ (h2 : ts.length = 2), ∃ x ∈ verts (ts[0]'(by omega)), x ∉ verts (ts[1]'(by omega))) :
    ∃ ts' n, orient vtx ts = .ok ts' n ∧ ts'.length = ts.length ∧
      (∀ k (hk : k < ts.length) (hk' : k < ts'.length), (verts ts'[k]).Perm (verts ts[k])) ∧
      isOriented ts' = true ∧
      (isClosed ts' = true → ∃ vol, Measures.volume vtx ts' = .ok vol ∧ 0 ≤ vol) ∧
      orient vtx ts' = .ok ts' 0 := by
  obtain ⟨ts1, fl, hc, hor1⟩ := consistent_oriented_partial hd hm hor hall hne hpillow
  have hvol : ∃ vol, Measures.volume vtx ts1 = .ok vol := by
    by_cases hcl : isClosed ts1 = true
    · exact ⟨_, Measures.volume_of_closed_oriented vtx hcl hor1⟩
    · exact ⟨_, Measures.volume_of_not_closed vtx (Bool.not_eq_true _ ▸ hcl)⟩
  obtain ⟨vol, hvol⟩ := hvol
  have hres : ∃ ts' n, orient vtx ts = .ok ts' n ∧ isOriented ts' = true := by
    unfold orient
    simp only [hc, hvol]
    split
    · exact ⟨_, _, rfl, by rw [isOriented_map_swap12]; exact hor1⟩
    · exact ⟨_, _, rfl, hor1⟩
  obtain ⟨ts', n, ho, hor'⟩ := hres
  exact ⟨ts', n, ho, (orient_preserves vtx ho).1, fun k hk hk' => orient_vertexSet vtx ho k hk hk', hor',
    fun hcl => orient_volume_nonneg vtx ho hcl, orient_idempotent_of_oriented vtx ho hor'⟩

/-- **clause `orient_idempotent`**: a second call returns 0 and changes nothing.  Differs from the unconditional
    statement by the hypotheses under which the first call is known to return an oriented list (those of
    `consistent_oriented_partial`); without any hypothesis see `orient_idempotent_of_oriented` (result oriented) and
    `orient_idempotent_closed` (result closed).  The unconditional statement is neither proved nor refuted. -/
theorem orient_idempotent_partial (vtx : Nat → V3 ℝ) {ts ts' : List Tri} {n : Nat}
    (hd : ∀ τ ∈ ts, TriDistinct τ) (hm : EdgeManifold ts)
    (hor : Orientable ts) (hall : EveryTriangleHasNeighbour ts) (hne : ts ≠ [])
    (hpillow : ∀ (h2 : ts.length = 2), ∃ x ∈ verts (ts[0]'(by omega)), x ∉ verts (ts[1]'(by omega)))
    (h : orient vtx ts = .ok ts' n) : orient vtx ts' = .ok ts' 0 := by
  obtain ⟨ts'', n', ho, _, _, _, _, hid⟩ := orient_spec_partial vtx hd hm hor hall hne hpillow
  rw [ho] at h
  cases h
  exact hid

/-! ## 5. non-vacuity: concrete meshes -/

/-- decidable criterion for `EdgeManifold` -/
theorem edgeManifold_of_counts {ts : List Tri} (h : ∀ e ∈ undKeys ts, (undKeys ts).count e ≤ 2) : EdgeManifold ts := by
  intro a b hab
  refine Nat.le_trans (countP_le_count_undKeys ts hab) ?_
  by_cases hmem : (min a b, max a b) ∈ undKeys ts
  · exact h _ hmem
  · rw [List.count_eq_zero_of_not_mem hmem]; omega

/-- decidable criterion for `EveryTriangleHasNeighbour` -/
theorem everyTriangleHasNeighbour_of {ts : List Tri}
    (h : ∀ A : Fin ts.length, ∃ B : Fin ts.length, B.1 ≠ A.1 ∧ ∃ e ∈ undEdges (ts[A.1]'A.2), e.1 ≠ e.2 ∧ e ∈ undEdges (ts[B.1]'B.2)) :
    EveryTriangleHasNeighbour ts := by
  intro A hA
  obtain ⟨⟨B, hB⟩, hBA, e, heA, hne, heB⟩ := h ⟨A, hA⟩
  have hA' := verts_of_undEdge heA
  have hB' := verts_of_undEdge heB
  exact ⟨B, hB, hBA, e.1, e.2, hne, hA'.1, hA'.2, hB'.1, hB'.2⟩

instance (τ : Tri) : Decidable (TriDistinct τ) := by unfold TriDistinct; infer_instance

/-- boundary of a tetrahedron with the second triangle wound the wrong way -/
def tet : List Tri := [(0,1,2),(0,1,3),(0,2,3),(1,3,2)]
def tetFixed : List Tri := [(0,1,2),(1,0,3),(0,2,3),(1,3,2)]

theorem tet_distinct : ∀ τ ∈ tet, TriDistinct τ := by decide
theorem tet_manifold : EdgeManifold tet := edgeManifold_of_counts (by decide)
theorem tet_orientable : Orientable tet := ⟨fun k => k == 1, by decide⟩
theorem tet_neighbours : EveryTriangleHasNeighbour tet := everyTriangleHasNeighbour_of (by decide)

theorem consistent_tet : consistent tet = some (some (tetFixed, 1)) := by decide
theorem isOriented_tetFixed : isOriented tetFixed = true := by decide
theorem isClosed_tetFixed : isClosed tetFixed = true := by decide

/-- the model evaluated on the tetrahedron: one triangle is flipped back, the result is oriented and closed -/
example : consistent tet = some (some (tetFixed, 1)) := consistent_tet
example : isOriented tet = false ∧ isOriented tetFixed = true ∧ isClosed tetFixed = true :=
  ⟨by decide, isOriented_tetFixed, isClosed_tetFixed⟩

/-- `consistent_preserves`, `consistent_vertexSet` are not vacuous -/
example : tetFixed.length = tet.length ∧ ∃ f : Nat → Bool, (∀ k (_h : k < tet.length) (_h' : k < tetFixed.length),
    tetFixed[k] = if f k then swap01 tet[k] else tet[k]) ∧ 1 = ((List.range tet.length).filter f).length :=
  consistent_preserves consistent_tet

/-- `consistent_oriented_partial` applies to the tetrahedron (all hypotheses hold) and agrees with the evaluation -/
example : ∃ ts' n, consistent tet = some (some (ts', n)) ∧ isOriented ts' = true :=
  consistent_oriented_partial tet_distinct tet_manifold tet_orientable tet_neighbours (by decide)
    (fun h2 => absurd h2 (by decide))

/-- `pair_sign` on the tetrahedron: the pairs with triangle 1 carry `-1`, the others `+1` -/
example : neighbourPairs (halfEdgeRows tet) (edgeCounts (halfEdgeRows tet))
    = [(0, 1, -1), (0, 3, 1), (0, 2, 1), (1, 3, -1), (1, 2, -1), (2, 3, 1)] := by decide

/-- `orient_spec_partial`, `orient_idempotent_partial`, `orient_volume_nonneg`: for every vertex array the oriented
    tetrahedron comes back closed, oriented, with non-negative volume, and a second call changes nothing -/
example (vtx : Nat → V3 ℝ) : ∃ ts' n vol, orient vtx tet = .ok ts' n ∧ isOriented ts' = true ∧ isClosed ts' = true ∧
    Measures.volume vtx ts' = .ok vol ∧ 0 ≤ vol ∧ orient vtx ts' = .ok ts' 0 := by
  obtain ⟨ts', n, ho, _, _, hor, hvol, hid⟩ :=
    orient_spec_partial vtx tet_distinct tet_manifold tet_orientable tet_neighbours (by decide)
      (fun h2 => absurd h2 (by decide))
  have hcl : isClosed ts' = true := by
    obtain ⟨ts1, fl, vol, hc, -, hif⟩ := orient_ok vtx ho
    rw [consistent_tet] at hc
    cases hc
    split at hif <;> obtain ⟨rfl, -⟩ := hif
    · rw [isClosed_map_swap12]; exact isClosed_tetFixed
    · exact isClosed_tetFixed
  obtain ⟨vol, h1, h2⟩ := hvol hcl
  exact ⟨ts', n, vol, ho, hor, hcl, h1, h2, hid⟩

/-- the reversal lemmas on a concrete list -/
example : isOriented (tetFixed.map swap12) = true ∧ isClosed (tetFixed.map swap12) = true := by decide

/-- two components (two tetrahedra, one bad triangle in each): the flood is re-seeded and orients both -/
def twoTet : List Tri := [(0,1,2),(0,1,3),(0,2,3),(1,3,2),(4,5,6),(4,7,5),(4,6,7),(5,6,7)]
example : consistent twoTet
    = some (some ([(0,1,2),(1,0,3),(0,2,3),(1,3,2),(4,5,6),(4,7,5),(4,6,7),(6,5,7)], 2)) := by decide +kernel
example : isOriented [(0,1,2),(1,0,3),(0,2,3),(1,3,2),(4,5,6),(4,7,5),(4,6,7),(6,5,7)] = true := by decide

/-- a fan of three triangles around the edge `{0,1}`: rejected -/
def fan : List Tri := [(0,1,2),(0,1,3),(0,1,4)]
example : consistent fan = some none := nonmanifold_rejected (a := 0) (b := 1) (by decide) (by decide)
example : consistent fan = some none := by decide
example : isOriented fan = false := not_oriented_of_three (a := 0) (b := 1) (by decide) (by decide)

/-- THE COUNTEREXAMPLE to clause `consistent_oriented` without the pillow proviso: all its other hypotheses hold, the model
    returns the input unchanged with count 0, and the input is not oriented. -/
def pillow : List Tri := [(0,1,2),(0,1,2)]
example : (∀ τ ∈ pillow, TriDistinct τ) ∧ EdgeManifold pillow ∧ Orientable pillow ∧ pillow ≠ [] :=
  ⟨by decide, edgeManifold_of_counts (by decide), ⟨fun k => k == 1, by decide⟩, by decide⟩
example : EveryTriangleHasNeighbour pillow := everyTriangleHasNeighbour_of (by decide)
example : consistent pillow = some (some (pillow, 0)) ∧ isOriented pillow = false := by decide
example : column 2 (pairsOf pillow) 0 = [(0, 1), (1, -3)] := by decide
example : consistent [] = some none := by decide

end LapyVerif.Props.C10
