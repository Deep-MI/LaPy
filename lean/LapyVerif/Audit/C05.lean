import LapyVerif.Props.C05
import LapyVerif.Props.C05b
import LapyVerif.Props.C01
import LapyVerif.Bridge.Fem
import LapyVerif.Bridge.Poisson
/- axiom audit of C05 -/
#print axioms LapyVerif.Props.C05.dirichlet_exact
#print axioms LapyVerif.Props.C05.interior_eq
#print axioms LapyVerif.Props.C05.run_spec
#print axioms LapyVerif.Props.C05.rhs_linear
#print axioms LapyVerif.Props.C05.fill_eq_xfun
#print axioms LapyVerif.Props.C05.scatter_of_mem
#print axioms LapyVerif.Props.C05.scatter_of_not_mem
#print axioms LapyVerif.Props.C05.mulVec_reduce
#print axioms LapyVerif.Props.C05.xfun_eq
#print axioms LapyVerif.Props.C01.stiff_form
#print axioms LapyVerif.Props.C01.stiff_psd
#print axioms LapyVerif.Bridge.fem_tria_A
#print axioms LapyVerif.Bridge.fem_tria_B
#print axioms LapyVerif.Bridge.fem_tet_A
#print axioms LapyVerif.Bridge.fem_tet_B
#print axioms LapyVerif.Lemmas.telescope_sum_zero_v3
#print axioms LapyVerif.Props.C05.flat_term
#print axioms LapyVerif.Props.C05.affine_harmonic
#print axioms LapyVerif.Props.C05.affine_harmonic_pos
#print axioms LapyVerif.Props.C05.affine_harmonic_reorient
#print axioms LapyVerif.Props.C05.balancedAt_iff_count
#print axioms LapyVerif.Props.C05.balancedAt_iff
#print axioms LapyVerif.Props.C05.balancedAt_of_interior
#print axioms LapyVerif.Props.C05.balancedAt_of_closed
#print axioms LapyVerif.Bridge.free_idx
#print axioms LapyVerif.Bridge.poisson_system
#print axioms LapyVerif.Bridge.poisson_result
#print axioms LapyVerif.Bridge.poisson_run
#print axioms LapyVerif.Bridge.poisson_system_neumann
#print axioms LapyVerif.Bridge.poisson_result_neumann
#print axioms LapyVerif.Bridge.poisson_format
#print axioms LapyVerif.Bridge.census_FemTria_pcCount
#print axioms LapyVerif.Bridge.census_FemTriaMass_pcCount
#print axioms LapyVerif.Bridge.census_FemTriaAniso_pcCount
#print axioms LapyVerif.Bridge.census_FemTet_pcCount
#print axioms LapyVerif.Bridge.census_PoissonSys_pcCount
#print axioms LapyVerif.Bridge.poisson_traced_spec
#print axioms LapyVerif.Bridge.poisson_traced_matrix
