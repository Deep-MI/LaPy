import LapyVerif.Bridge.Fem
import LapyVerif.Generated.SolverAniso
/-
  Bridge: the anisotropic branch of `Solver.__init__` (lapy/solver.py), traced with a symbolic per-triangle output
  `(u1, u2, c1, c2)` of `curvature_tria`, is the model's `Fem.solverAniso`: the weights are `exp(-a0*|c2|)` (column 0) and
  `exp(-a1*|c1|)` (column 1), a scalar `aniso` is used for both, the stiffness does not depend on `lump` (`solver_aniso_lump_A`), the mass matrix is the
  isotropic one for `lump=False` (`solver_aniso_B`; the recorded lumped mass matrix `Gen.SolverAniso.BL` has no bridge), and
  `aniso_smooth` is what `curvature_tria` receives.
-/
namespace LapyVerif.Bridge

theorem solver_aniso_pc (v0 v1 v2 u1 u2 : V3 ℝ) (c1 c2 a0 a1 : ℝ) (h : Gen.SolverAniso.pc v0 v1 v2 u1 u2 c1 c2 a0 a1) (d0 d1 : ℝ) :
    Gen.FemTriaAniso.pc v0 v1 v2 u1 u2 d0 d1 := by
  simpa [Gen.SolverAniso.pc, Gen.FemTriaAniso.pc] using h

/-- the traced constructor output is the traced kernel at the weights `exp(-a0*|c2|)`, `exp(-a1*|c1|)` -/
theorem solver_aniso_gen_A (v0 v1 v2 u1 u2 : V3 ℝ) (c1 c2 a0 a1 : ℝ) :
    Gen.SolverAniso.A v0 v1 v2 u1 u2 c1 c2 a0 a1
      = Gen.FemTriaAniso.A v0 v1 v2 u1 u2 (Real.exp (-a0 * |c2|)) (Real.exp (-a1 * |c1|)) :=
  rfl

/-- **`Solver(tria, lump=False, aniso=(a0, a1))`**: stiffness -/
theorem solver_aniso_A (v0 v1 v2 u1 u2 : V3 ℝ) (c1 c2 a0 a1 : ℝ) (h : Gen.SolverAniso.pc v0 v1 v2 u1 u2 c1 c2 a0 a1) :
    (Fem.solverAniso false (vtx3 v0 v1 v2) [(0, 1, 2)] a0 a1 [(u1, u2, c1, c2)]).1 = Gen.SolverAniso.A v0 v1 v2 u1 u2 c1 c2 a0 a1 := by
  rw [solver_aniso_gen_A, ← fem_aniso_A v0 v1 v2 u1 u2 _ _ (solver_aniso_pc v0 v1 v2 u1 u2 c1 c2 a0 a1 h _ _)]
  simp only [Fem.solverAniso, Fem.anisoWeights, List.map_cons, List.map_nil, exp_real, abs_real]

/-- a scalar `aniso` is used for both directions -/
theorem solver_aniso_scalar (v0 v1 v2 u1 u2 : V3 ℝ) (c1 c2 a0 a1 : ℝ) :
    Gen.SolverAniso.As v0 v1 v2 u1 u2 c1 c2 a0 a1 = Gen.SolverAniso.A v0 v1 v2 u1 u2 c1 c2 a0 a0 :=
  rfl

/-- the stiffness matrix does not depend on `lump` -/
theorem solver_aniso_lump_A (v0 v1 v2 u1 u2 : V3 ℝ) (c1 c2 a0 a1 : ℝ) :
    Gen.SolverAniso.AL v0 v1 v2 u1 u2 c1 c2 a0 a1 = Gen.SolverAniso.A v0 v1 v2 u1 u2 c1 c2 a0 a1 :=
  rfl

/-- **mass matrix of the anisotropic Solver** (full): the isotropic one -/
theorem solver_aniso_B (v0 v1 v2 u1 u2 : V3 ℝ) (c1 c2 a0 a1 : ℝ) (h : Gen.SolverAniso.pc v0 v1 v2 u1 u2 c1 c2 a0 a1) :
    (Fem.solverAniso false (vtx3 v0 v1 v2) [(0, 1, 2)] a0 a1 [(u1, u2, c1, c2)]).2 = Gen.SolverAniso.B v0 v1 v2 u1 u2 c1 c2 a0 a1 := by
  have e : Gen.SolverAniso.B v0 v1 v2 u1 u2 c1 c2 a0 a1 = Gen.FemTriaAniso.B v0 v1 v2 u1 u2 0 0 := rfl
  rw [e, ← fem_aniso_B v0 v1 v2 u1 u2 0 0 (solver_aniso_pc v0 v1 v2 u1 u2 c1 c2 a0 a1 h 0 0)]
  simp only [Fem.solverAniso]

/-- `aniso_smooth` is the `smoothit` argument of `curvature_tria`, once per constructor call (the tracer constructs three solvers with
    `aniso_smooth = 7`: anisotropy as a pair, as a scalar, and as a pair with `lump=True` — `A/B`, `As`, `AL/BL`) -/
theorem solver_aniso_smooth : Gen.SolverAniso.smoothSeen = [[7], [7], [7]] := by decide

/-! ### census: how many data-dependent decisions the tracer recorded (a branch added to the source changes the number) -/
theorem census_SolverAniso_pcCount : Gen.SolverAniso.pcCount = 1 := rfl

end LapyVerif.Bridge
