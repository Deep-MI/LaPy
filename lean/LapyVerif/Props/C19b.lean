import Mathlib.Data.List.Fold
import LapyVerif.Props.C19
import LapyVerif.Props.C02
import LapyVerif.Model.Flow
import LapyVerif.Lemmas.MinMax
/-
  C19b — the statements of `Props/C19.lean` on the executable model `Model/Flow.lean`.  The axis-flip facts are
  proved on the model's definitions and then copied to the definitions of C19, which are shown equal to them.
-/
namespace LapyVerif.Props.C19

theorem maxL_neg (l : List ℝ) : Flow.maxL (l.map fun e => -e) = - Flow.minL l := by
  have h0 : (l.map fun e : ℝ => -e).headD 0 = -(l.headD 0) := by cases l <;> simp
  rw [Flow.maxL, Flow.minL, ite_lt_eq_max, ite_lt_eq_min, List.foldl_map, h0]
  exact List.foldl_hom Neg.neg fun x y => max_neg_neg x y

/-- the statement with `max` and `min` exchanged is the same one read for `−l` -/
theorem minL_neg (l : List ℝ) : Flow.minL (l.map fun e => -e) = - Flow.maxL l := by
  have := maxL_neg (l.map fun e => -e)
  simp only [List.map_map, Function.comp_def, neg_neg, List.map_id'] at this
  rw [this, neg_neg]

theorem le_maxL {l : List ℝ} {x : ℝ} (h : x ∈ l) : x ≤ Flow.maxL l := by
  rw [Flow.maxL, ite_lt_eq_max]; exact (foldl_max_spec l _).2.1 x h

theorem maxL_mem {l : List ℝ} (h : l ≠ []) : Flow.maxL l ∈ l := by
  obtain ⟨a, r, rfl⟩ := List.exists_cons_of_ne_nil h
  rw [Flow.maxL, ite_lt_eq_max]
  simpa using (foldl_max_spec (a :: r) a).2.2

/-- the statements about `minL` are those about `maxL` read for the negated list -/
theorem minL_eq_neg_maxL (l : List ℝ) : Flow.minL l = - Flow.maxL (l.map fun e => -e) := by
  rw [maxL_neg, neg_neg]

theorem minL_le {l : List ℝ} {x : ℝ} (h : x ∈ l) : Flow.minL l ≤ x := by
  rw [minL_eq_neg_maxL]
  exact neg_le.mp (le_maxL (List.mem_map.mpr ⟨x, h, rfl⟩))

theorem minL_mem {l : List ℝ} (h : l ≠ []) : Flow.minL l ∈ l := by
  obtain ⟨x, hx, hm⟩ := List.mem_map.mp (maxL_mem (l := l.map fun e => -e) (by simpa using h))
  rw [minL_eq_neg_maxL, ← hm, neg_neg]; exact hx

theorem flags_neg (c : ℝ) (ev : List ℝ) :
    (ev.map fun e => -e).map (fun e => decide (c < e)) = ev.map (fun e => decide (e < -c)) ∧
    (ev.map fun e => -e).map (fun e => decide (e < c)) = ev.map (fun e => decide (-c < e)) := by
  simp only [List.map_map, Function.comp_def, lt_neg, neg_lt, and_self]

/-- **negating the eigenfunction exchanges the two vertex sets**, so `cmax − cmin` changes sign -/
theorem axisDiff_neg (ev p : List ℝ) : Flow.axisDiff (ev.map fun e => -e) p = - Flow.axisDiff ev p := by
  simp only [Flow.axisDiff, maxL_neg, minL_neg, flags_neg, mul_neg, neg_neg, neg_sub]

theorem flow_axis_flip (e p : List ℝ) : 0 ≤ Flow.axisDiff (Flow.alignAxis e p) p := by
  unfold Flow.alignAxis
  split_ifs with h
  · rw [axisDiff_neg]; exact neg_nonneg.mpr h.le
  · exact not_lt.mp h

theorem flow_alignAxis_idem (e p : List ℝ) : Flow.alignAxis (Flow.alignAxis e p) p = Flow.alignAxis e p := by
  by_cases h : Flow.axisDiff e p < 0
  · have h1 : Flow.alignAxis e p = e.map fun x => -x := if_pos h
    rw [h1, Flow.alignAxis, axisDiff_neg, if_neg (not_lt.mpr (neg_nonneg.mpr h.le))]
  · have h1 : Flow.alignAxis e p = e := if_neg h
    rw [h1, h1]

/-! ### the quantities of `Props/C19.lean` are those of the model

`maxL_eq_lmax`, `minL_eq_lmin`, `axisDiff_eq`, `alignAxis_eq` are the whole bridge; `axis_flip`, `axis_flip_idem`
are `flow_axis_flip`, `flow_alignAxis_idem` read through it.  `Flow.embed` (C19c) inlines the flip and uses
neither vocabulary; there `aligned1 v e` is `Flow.alignAxis e (v.map (·.y))` up to unfolding and `sub_neg` (not stated). -/

/-- both are `0` on the empty list; the model folds from the left with `if m < x then x else m`, C19 from the right
    with `max` -/
theorem maxL_eq_lmax (e : List ℝ) : Flow.maxL e = lmax e := by
  unfold Flow.maxL lmax
  rw [ite_lt_eq_max, List.foldl_eq_foldr]

theorem minL_eq_lmin (e : List ℝ) : Flow.minL e = lmin e := by
  unfold Flow.minL lmin
  rw [ite_lt_eq_min, List.foldl_eq_foldr]

/-- selecting by a flag list computed from `e` = filtering the pairs `(e_i, p_i)`: both sides filter `p.zip e` -/
theorem sel_eq_filter (e p : List ℝ) (g : ℝ → Bool) :
    ((p.zip (e.map g)).filter (·.2)).map (·.1) = ((e.zip p).filter fun q => g q.1).map (·.2) := by
  rw [← List.zip_swap p e, List.zip_map_right, List.filter_map, List.filter_map, List.map_map, List.map_map]
  rfl

theorem meanSel_eq (e p : List ℝ) (g : ℝ → Bool) :
    Flow.meanSel p (e.map g) = mean (((e.zip p).filter fun q => g q.1).map (·.2)) := by
  unfold Flow.meanSel mean
  simp only [sel_eq_filter]

/-- the model writes `0.5 * m` as `↑1 / ↑2 * m` -/
private theorem half_mul (m : ℝ) : ((1 : Nat) : ℝ) / ((2 : Nat) : ℝ) * m = m / 2 := by push_cast; ring

/-- no length hypothesis is needed: both sides truncate the zip alike -/
theorem axisDiff_eq (e p : List ℝ) : Flow.axisDiff e p = hiMean e p - loMean e p := by
  simp only [Flow.axisDiff, hiMean, loMean, meanSel_eq, maxL_eq_lmax, minL_eq_lmin, half_mul, gt_iff_lt]

theorem alignAxis_eq (e p : List ℝ) : Flow.alignAxis e p = axisFlip e p := by
  simp only [Flow.alignAxis, axisFlip, axisDiff_eq, sub_neg]

theorem axis_flip (e p : List ℝ) : 0 ≤ hiMean (axisFlip e p) p - loMean (axisFlip e p) p := by
  rw [← alignAxis_eq, ← axisDiff_eq]; exact flow_axis_flip e p

theorem axis_flip_idem (e p : List ℝ) : axisFlip (axisFlip e p) p = axisFlip e p := by
  simp only [← alignAxis_eq]; exact flow_alignAxis_idem e p

open V3

theorem project100_eq (v : V3 ℝ) : Flow.project100 v = smul (100 / Real.sqrt (normSq v)) v := by
  unfold Flow.project100
  v3_flat [V3.ext'_iff]; and_intros <;> ring

theorem flow_project_radius (v : V3 ℝ) (hv : normSq v ≠ 0) : normSq (Flow.project100 v) = 100 * 100 := by
  rw [project100_eq]; exact project_radius v hv

theorem stepMatrix_eq (step : ℝ) (A0 : Coo ℝ) (vcur : Nat → V3 ℝ) (ts : List Tri) :
    Flow.stepMatrix step A0 vcur ts = Heat.heatMat step A0 (Fem.massTriaStandalone true vcur ts) := rfl

/-- under the complement of the degeneracy guards the step matrix is `lumped mass + step · A₀` with the solver's
    lumped mass matrix -/
theorem stepMatrix_eq_solver (step : ℝ) (A0 : Coo ℝ) (vcur : Nat → V3 ℝ) (ts : List Tri) (h : NonDegenTri vcur ts) :
    Flow.stepMatrix step A0 vcur ts = Heat.heatMat step A0 (Fem.massTria true vcur ts) := by
  rw [stepMatrix_eq, C02.standalone_eq_solver true vcur ts h]

theorem flow_step_fixed_model (step : ℝ) (A0 : Coo ℝ) (vcur : Nat → V3 ℝ) (ts : List Tri) (V : Nat → ℝ)
    (h0 : ∀ i, Coo.mulVec A0 V i = 0) (i : Nat) :
    Coo.mulVec (Flow.stepMatrix step A0 vcur ts) V i = Coo.mulVec (Fem.massTriaStandalone true vcur ts) V i :=
  flow_step_fixed step A0 _ V h0 i

theorem stepMatrix_form (step : ℝ) (A0 : Coo ℝ) (vcur : Nat → V3 ℝ) (ts : List Tri) (f g : Nat → ℝ) :
    Coo.form (Flow.stepMatrix step A0 vcur ts) f g =
      Coo.form (Fem.massTriaStandalone true vcur ts) f g + step * Coo.form A0 f g :=
  Coo.form_heatMat step A0 _ f g

theorem lumped_form_pos (vcur : Nat → V3 ℝ) (ts : List Tri) (h : NonDegenTri vcur ts) (f : Nat → ℝ) :
    0 ≤ Coo.form (Fem.massTria true vcur ts) f f ∧
    ((∃ τ ∈ ts, f τ.1 ≠ 0 ∨ f τ.2.1 ≠ 0 ∨ f τ.2.2 ≠ 0) → 0 < Coo.form (Fem.massTria true vcur ts) f f) := by
  have key := diag_form_pos _ (C02.lumped_diagonal vcur ts) (C02.massTria_values_pos true vcur ts h) f
  refine ⟨key.1, fun ⟨⟨t1, t2, t3⟩, hτ, hf⟩ => key.2 ?_⟩
  -- a diagonal triplet at a vertex where `f ≠ 0`
  rw [C02.massTria_blocks true vcur ts h]
  have hmem : ∀ e ∈ Fem.triBlockL (t1, t2, t3) (Fem.triVol (vcur t1) (vcur t2) (vcur t3) / ((12 : Nat) : ℝ)),
      e ∈ (ts.map (C02.triMassBlock true vcur)).flatten :=
    fun e he => List.mem_flatten.mpr ⟨_, List.mem_map.mpr ⟨_, hτ, rfl⟩, he⟩
  rcases hf with hf | hf | hf
  · exact ⟨_, hmem _ List.mem_cons_self, hf⟩
  · exact ⟨_, hmem _ (List.mem_cons_of_mem _ List.mem_cons_self), hf⟩
  · exact ⟨_, hmem _ (List.mem_cons_of_mem _ (List.mem_cons_of_mem _ List.mem_cons_self)), hf⟩

/-- **positive definiteness for the model**: the matrix of every flow iteration is positive definite on the vertices
    used by the mesh, whenever the current iterate has no degenerate triangle -/
theorem flow_system_pd (step : ℝ) (A0 : Coo ℝ) (vcur : Nat → V3 ℝ) (ts : List Tri) (h : NonDegenTri vcur ts)
    (hA : ∀ f, 0 ≤ Coo.form A0 f f) (hstep : 0 ≤ step) (f : Nat → ℝ)
    (hf : ∃ τ ∈ ts, f τ.1 ≠ 0 ∨ f τ.2.1 ≠ 0 ∨ f τ.2.2 ≠ 0) :
    0 < Coo.form (Flow.stepMatrix step A0 vcur ts) f f := by
  rw [stepMatrix_eq_solver step A0 vcur ts h]
  exact flow_mass_pd step A0 _ f (hA f) ((lumped_form_pos vcur ts h f).2 hf) hstep

private theorem ite_some_eq_none {α : Type} {c : Prop} [Decidable c] {a : α} {x : Option α} :
    (if c then some a else x) = none ↔ ¬ c ∧ x = none := by
  by_cases h : c <;> simp [h]

/-- **a mesh is returned (`none`) exactly when all four gates pass** -/
theorem gates_spec (svol fl sp : ℝ) :
    Flow.gates svol fl sp = none ↔
      ¬ (95 / 100 < fl) ∧ ¬ (svol < 99 / 100) ∧ ¬ (8 / 10000 < fl) ∧ ¬ (sp < 6 / 10) := by
  unfold Flow.gates
  push_cast
  simp only [ite_some_eq_none, and_true]

/-- the ranges of a returned mesh.  The first gate does not appear: it is implied by the third (its message "global normal
    flip" wins whenever `fl > 0.95`) -/
theorem gates_accept_range (svol fl sp : ℝ) (h : Flow.gates svol fl sp = none) :
    fl ≤ 8 / 10000 ∧ 99 / 100 ≤ svol ∧ 6 / 10 ≤ sp := by
  obtain ⟨_, h2, h3, h4⟩ := (gates_spec svol fl sp).mp h
  exact ⟨not_lt.mp h3, not_lt.mp h2, not_lt.mp h4⟩

theorem stepDiff_nonneg (M : Coo ℝ) (dv : List (V3 ℝ)) : 0 ≤ Flow.stepDiff M dv := by
  unfold Flow.stepDiff
  exact add_nonneg (add_nonneg (mul_self_nonneg _) (mul_self_nonneg _)) (mul_self_nonneg _)

/-! ### non-vacuity (the positive-definiteness of the flow system is instantiated in `Props/Examples.lean`) -/
section Examples

example : Flow.maxL ([1, -3, 2] : List ℝ) = 2 ∧ Flow.minL ([1, -3, 2] : List ℝ) = -3 := by
  rw [maxL_eq_lmax, minL_eq_lmin]
  exact ex_lmax

example : Flow.alignAxis ([1, -1] : List ℝ) [0, 5] = [-1, 1] := by
  rw [alignAxis_eq]
  exact ex_axisFlip

example : normSq (Flow.project100 (⟨3, 4, 0⟩ : V3 ℝ)) = 100 * 100 := flow_project_radius _ (by v3_flat; norm_num)

example : Flow.gates (0.995 : ℝ) 0.0001 0.7 = none := by
  rw [gates_spec]; norm_num
example : Flow.gates (0.98 : ℝ) 0.0001 0.7 ≠ none := by
  rw [Ne, gates_spec]; norm_num
example : Flow.gates (0.995 : ℝ) 0.97 0.7 = some "global normal flip" := by
  unfold Flow.gates; norm_num

end Examples

end LapyVerif.Props.C19
