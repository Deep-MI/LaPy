import LapyVerif.Model.Mesh
/-
  Model of LaPy's text file formats (C14): VTK triangle / tetra writers and readers, OFF and Gmsh-2 ASCII readers,
  the ShapeDNA `.ev` format and the vertex-function format.

  Files are lists of lines.  Numbers are kept as their decimal text (`String` tokens): formatting / parsing of floating
  point numbers is Python's (`str(float32)` / C `strtod`) and is not modelled: the tokens are opaque, the theorems constrain
  their shape (`GoodCoord`, `VfTok` in Props/C14), and that Python reads back what it prints is checked by the harness.  `np.fromfile(f, dtype, count, " ")` is modelled on the token stream as observed: it takes up
  to `count` numeric tokens (white space and line breaks are separators, trailing white space is consumed), fails on a
  non-numeric token, returns fewer items at end of file (the following reshape then fails), and leaves the rest of the
  current line for `readline`.  The token `"\n"` marks the end of a line in the stream.
-/
namespace LapyVerif
namespace Formats

/-! ### tokens -/

def isDigit (c : Char) : Bool := '0' ≤ c && c ≤ '9'

/-- unsigned decimal integer -/
def isNatTok (s : String) : Bool := !s.isEmpty && s.all isDigit

def stripSign (s : String) : String :=
  if s.startsWith "-" || s.startsWith "+" then (s.drop 1).toString else s

def isIntTok (s : String) : Bool := isNatTok (stripSign s)

/-- decimal floating-point text: sign, digits with optional fraction, optional exponent; also `nan` / `inf` -/
def isFloatTok (s : String) : Bool :=
  let body := stripSign s
  if body == "nan" || body == "inf" then true else
  let (mant, ex) := match body.splitOn "e" with
    | [m] => (m, none)
    | [m, e] => (m, some e)
    | _ => ("", none)
  let mantOk := match mant.splitOn "." with
    | [a] => isNatTok a
    | [a, b] => (isNatTok a && (b.isEmpty || isNatTok b)) || (a.isEmpty && isNatTok b)
    | _ => false
  mantOk && (match ex with | none => true | some e => isIntTok e)

/-- split at the characters satisfying `p` (empty pieces kept) -/
def splitBy (p : Char → Bool) (s : String) : List String :=
  let (cur, acc) := s.toList.foldl (fun (st : List Char × List String) c =>
    if p c then ([], String.ofList st.1.reverse :: st.2) else (c :: st.1, st.2)) ([], [])
  (String.ofList cur.reverse :: acc).reverse

def words (line : String) : List String :=
  (splitBy (fun c => c == ' ' || c == '\t' || c == '\r' || c == '\n') line).filter (· ≠ "")

def NL : String := "\n"

/-- the token stream of a list of lines -/
def tokenize (lines : List String) : List String := lines.flatMap fun l => words l ++ [NL]

inductive Fail where
  | format        -- the reader reports a format problem (OSError / returns no mesh)
  | data          -- `np.fromfile` / reshape / index errors: malformed or truncated data
deriving Repr, DecidableEq

def dropNL : List String → List String
  | [] => []
  | t :: r => if t == NL then dropNL r else t :: r

/-- `np.fromfile(f, dtype, count, " ")` + reshape: exactly `count` tokens satisfying `ok`, else failure -/
def takeNums (ok : String → Bool) : Nat → List String → List String → Except Fail (List String × List String)
  | 0, acc, toks => .ok (acc.reverse, dropNL toks)
  | _ + 1, _, [] => .error .data
  | n + 1, acc, t :: r =>
    if t == NL then takeNums ok (n + 1) acc r
    else if ok t then takeNums ok n (t :: acc) r else .error .data

/-- `f.readline().split()` on the stream -/
def readLine : List String → List String × List String
  | [] => ([], [])
  | t :: r => if t == NL then ([], r) else let (l, rest) := readLine r; (t :: l, rest)

def chunk (k : Nat) : Nat → List String → List (List String)
  | 0, _ => []
  | n + 1, l => l.take k :: chunk k n (l.drop k)

structure RawMesh where
  coords : List String            -- 3 coordinate tokens per vertex, row-major
  elems : List (List Nat)
deriving Repr

/-! ### VTK -/

/-- `write_vtk` (triangles: `k = 3`, tetrahedra: `k = 4`); `coords` are the `str()` of the coordinates -/
def writeVtk (k : Nat) (coords : List (List String)) (elems : List (List Nat)) : List String :=
  ["# vtk DataFile Version 1.0", "vtk output", "ASCII", "DATASET POLYDATA", s!"POINTS {coords.length} float"] ++
  coords.map (fun r => " ".intercalate r) ++
  [s!"POLYGONS {elems.length} {(k + 1) * elems.length}"] ++
  elems.map fun e => " ".intercalate ((toString k) :: e.map toString)

/-- skip `#` comment lines, then find a line starting with `ASCII` within the next 5 lines -/
def skipToAscii (lines : List String) : Option (List String) :=
  let l1 := lines.dropWhile fun l => l.startsWith "#"
  let rec go : Nat → List String → Option (List String)
    | _, [] => none
    | n, l :: r => if l.startsWith "ASCII" then some r else if n == 0 then none else go (n - 1) r
  go 5 l1

/-- `read_vtk` for triangle (`k = 3`) or tetra (`k = 4`) meshes, POLYGONS / CELLS branch; the triangle reader also
    unrolls TRIANGLE_STRIPS -/
def readVtk (k : Nat) (lines : List String) : Except Fail RawMesh :=
  match skipToAscii lines with
  | none => .error .format
  | some [] => .error .data
  | some (ds :: rest) =>
    if !(ds.startsWith "DATASET POLYDATA" || ds.startsWith "DATASET UNSTRUCTURED_GRID") then .error .format else
    match rest with
    | [] => .error .data
    | pl :: rest =>
      match words pl with
      | [kw, n, ty] =>
        if kw != "POINTS" || (ty != "float" && ty != "double") then .error .format else
        if !isNatTok n then .error .data else
        let pnum := n.toNat!
        match takeNums isFloatTok (3 * pnum) [] (tokenize rest) with
        | .error e => .error e
        | .ok (coords, toks) =>
          let (hd, toks) := readLine toks
          match hd with
          | kw :: a :: b :: _ =>
            if kw == "POLYGONS" || kw == "CELLS" then
              if !(isNatTok a && isNatTok b) then .error .data else
              let tnum := a.toNat!; let ttnum := b.toNat!
              if tnum == 0 then .error .data else
              if ttnum != (k + 1) * tnum then .error .format else
              match takeNums isIntTok ttnum [] toks with
              | .error e => .error e
              | .ok (nums, _) =>
                let rows := chunk (k + 1) tnum nums
                if (rows.getLast?.bind (·.head?)) != some (toString k) then .error .format else
                if nums.any (fun s => s.startsWith "-") then .error .data else
                .ok { coords := coords, elems := rows.map fun r => (r.drop 1).map (·.toNat!) }
            else if kw == "TRIANGLE_STRIPS" && k == 3 then
              if !isNatTok a then .error .data else
              let rec strips : Nat → List String → List (List Nat) → Except Fail (List (List Nat))
                | 0, _, acc => .ok acc
                | m + 1, toks, acc =>
                  let (l, toks') := readLine toks
                  match l with
                  | [] => .error .format
                  | c :: idx =>
                    if !isNatTok c || idx.length != c.toNat! || !idx.all isNatTok then .error .format else
                    let ix := idx.map (·.toNat!)
                    let tri := (List.range (ix.length - 2)).map fun j =>
                      -- larr index ii = j + 2 (1-based positions after the count): even ii keeps the order
                      if j % 2 == 0 then [ix.getD j 0, ix.getD (j + 1) 0, ix.getD (j + 2) 0]
                      else [ix.getD (j + 1) 0, ix.getD j 0, ix.getD (j + 2) 0]
                    strips m toks' (acc ++ tri)
              match strips a.toNat! toks [] with
              | .error e => .error e
              | .ok tr => .ok { coords := coords, elems := tr }
            else .error .format
          | _ => .error .data
      | _ => .error .data

/-! ### OFF (triangles) -/

def readOff (lines : List String) : Except Fail RawMesh :=
  let l1 := lines.dropWhile fun l => l.startsWith "#"
  match l1 with
  | [] => .error .data
  | h :: rest =>
    if !h.startsWith "OFF" then .error .format else
    match rest with
    | [] => .error .data
    | cl :: rest =>
      match words cl with
      | p :: t :: _ =>
        if !(isNatTok p && isNatTok t) then .error .data else
        let pnum := p.toNat!; let tnum := t.toNat!
        match takeNums isFloatTok (3 * pnum) [] (tokenize rest) with
        | .error e => .error e
        | .ok (coords, toks) =>
          match takeNums isIntTok (4 * tnum) [] toks with
          | .error e => .error e
          | .ok (nums, _) =>
            let rows := chunk 4 tnum nums
            if tnum == 0 then .error .data else
            if (rows.map fun r => (r.headD "0").toNat!).foldl max 0 != 3 then .error .format else
            .ok { coords := coords, elems := rows.map fun r => (r.drop 1).map (·.toNat!) }
      | _ => .error .data

/-! ### Gmsh 2 ASCII (tetrahedra; node numbers are 1-based in the file) -/

def readGmsh (lines : List String) : Except Fail RawMesh :=
  match lines with
  | l0 :: l1 :: l2 :: l3 :: l4 :: rest =>
    if !l0.startsWith "$MeshFormat" then .error .format else
    match words l1 with
    | _ :: ft :: _ :: _ =>
      if ft != "0" then .error .format else
      if !l2.startsWith "$EndMeshFormat" || !l3.startsWith "$Nodes" then .error .format else
      if !isNatTok l4.trimAscii.toString then .error .data else
      let pnum := l4.trimAscii.toString.toNat!
      match takeNums isFloatTok (4 * pnum) [] (tokenize rest) with
      | .error e => .error e
      | .ok (nums, toks) =>
        let coords := (chunk 4 pnum nums).flatMap (·.drop 1)
        let (e1, toks) := readLine toks
        let (e2, toks) := readLine toks
        let (e3, toks) := readLine toks
        if !(e1.headD "").startsWith "$EndNodes" || !(e2.headD "").startsWith "$Elements" then .error .format else
        match e3 with
        | [tn] =>
          if !isNatTok tn then .error .data else
          let tnum := tn.toNat!
          let (first, _) := readLine toks
          match first with
          | _ :: ty :: _ =>
            if ty != "4" then .error .format else
            let w := first.length
            match takeNums isIntTok (tnum * w) [] toks with
            | .error e => .error e
            | .ok (nums, toks) =>
              let rows := chunk w tnum nums
              let (e4, _) := readLine toks
              if !(e4.headD "").startsWith "$EndElements" then .error .format else
              if rows.any (fun r => (r.drop (w - 4)).any fun s => s.startsWith "-" || s == "0") then .error .data else
              .ok { coords := coords, elems := rows.map fun r => (r.drop (w - 4)).map fun s => s.toNat! - 1 }
          | _ => .error .data
        | _ => .error .data
    | _ => .error .data
  | _ => .error .data

/-! ### `.ev` files -/

structure EvData where
  strs : List (String × String)        -- Creator, File, User
  ints : List (String × String)        -- Refine, Degree, Dimension, Elements, DoF, NumEW, EulerChar, TimePre, TimeCalcAB, TimeCalcEW
  floats : List (String × String)      -- Area, Volume, BLength
  evals : List String
  evecs : Option (Nat × Nat × List (List String))   -- (rows n, cols k, columns)
deriving Repr

def lookupS (l : List (String × String)) (k : String) : Option String := (l.find? (·.1 == k)).map (·.2)

/-- `write_ev` -/
def writeEv (d : EvData) : List String :=
  let opt := fun (l : List (String × String)) (key label : String) => match lookupS l key with
    | some v => [s!" {label}: {v}"] | none => []
  let optT := fun (key label : String) => match lookupS d.ints key with
    | some v => [s!" {label} : {v}"] | none => []
  let total := match lookupS d.ints "TimePre", lookupS d.ints "TimeCalcAB", lookupS d.ints "TimeCalcEW" with
    | some a, some b, some c => [s!" Time(total ) : {a.toInt! + b.toInt! + c.toInt!}"]
    | _, _, _ => []
  opt d.strs "Creator" "Creator" ++ opt d.strs "File" "File" ++ opt d.strs "User" "User" ++
  opt d.ints "Refine" "Refine" ++ opt d.ints "Degree" "Degree" ++ opt d.ints "Dimension" "Dimension" ++
  opt d.ints "Elements" "Elements" ++ opt d.ints "DoF" "DoF" ++ opt d.ints "NumEW" "NumEW" ++ [""] ++
  opt d.floats "Area" "Area" ++ opt d.floats "Volume" "Volume" ++ opt d.floats "BLength" "BLength" ++
  opt d.ints "EulerChar" "EulerChar" ++ [""] ++
  optT "TimePre" "Time(Pre)" ++ optT "TimeCalcAB" "Time(calcAB)" ++ optT "TimeCalcEW" "Time(calcEW)" ++ total ++ [""] ++
  ["Eigenvalues:", "{ " ++ " ; ".intercalate d.evals ++ " }", ""] ++
  (match d.evecs with
   | none => []
   | some (n, k, cols) =>
     let body := cols.map fun c => "(" ++ ",".intercalate c ++ ")"
     let lines := match body.reverse with
       | [] => []
       | last :: revInit => (revInit.reverse.map (· ++ " ;")) ++ [last ++ " }"]
     ["Eigenvectors:", s!"sizes: {n} {k}", ""] ++
       (match lines with
        | [] => ["{ "]
        | l0 :: ls => ("{ " ++ l0) :: ls))

def stripChars (s : String) (cs : List Char) : String := String.ofList (s.toList.filter fun c => !cs.contains c)

def afterColon (l : String) : String :=
  (String.intercalate ":" ((l.splitOn ":").drop 1)).trimAscii.toString

/-- collect a `{ … }` block starting at the first line containing `{`; returns the concatenated stripped text -/
def braceBlock : List String → Option (String × List String)
  | [] => none
  | l :: r =>
    if !l.contains '{' then braceBlock r
    else
      let rec collect (acc : String) : List String → Option (String × List String)
        | [] => none
        | x :: xs => if x.contains '}' then some (acc ++ x.trimAscii.toString, xs) else collect (acc ++ x.trimAscii.toString) xs
      collect "" (l :: r)

def intKeys : List (String × String) :=
  [("Refine:", "Refine"), ("Degree:", "Degree"), ("Dimension:", "Dimension"), ("Elements:", "Elements"), ("DoF:", "DoF"),
   ("NumEW:", "NumEW"), ("EulerChar:", "EulerChar"), ("Time(calcAB)", "TimeCalcAB"), ("Time(calcEW)", "TimeCalcEW")]

/-- `read_ev` (after repair F8); `none` = an exception is raised -/
def readEv : Nat → List String → EvData → Option EvData
  | 0, _, d => some d
  | _, [], d => some d
  | fuel + 1, l :: rest, d =>
    let t := l.trimAsciiStart.toString
    match [("Creator:", "Creator"), ("File:", "File"), ("User:", "User")].find? (fun p => t.startsWith p.1) with
    | some p => readEv fuel rest { d with strs := d.strs ++ [(p.2, afterColon l)] }
    | none =>
    match intKeys.find? (fun p => t.startsWith p.1) with
    | some p => if isIntTok (afterColon l) then readEv fuel rest { d with ints := d.ints ++ [(p.2, afterColon l)] } else none
    | none =>
    if t.toLower.startsWith "time(pre)" then
      (if isIntTok (afterColon l) then readEv fuel rest { d with ints := d.ints ++ [("TimePre", afterColon l)] } else none)
    else
    match [("Area:", "Area"), ("Volume:", "Volume"), ("BLength:", "BLength")].find? (fun p => t.startsWith p.1) with
    | some p => if isFloatTok (afterColon l) then readEv fuel rest { d with floats := d.floats ++ [(p.2, afterColon l)] } else none
    | none =>
    if t.startsWith "Eigenvalues" then
      match braceBlock rest with
      | none => none
      | some (txt, rest') =>
        let vals := ((stripChars txt ['{', '}']).splitOn ";").map (·.trimAscii.toString)
        if vals.all isFloatTok then readEv fuel rest' { d with evals := vals } else none
    else if t.startsWith "Eigenvectors" then
      match rest.dropWhile (fun x => !x.trimAscii.toString.startsWith "sizes") with
      | [] => none
      | sl :: rest1 =>
        match (words sl).drop 1 with
        | [a, b] =>
          if !(isNatTok a && isNatTok b) then none else
          match braceBlock rest1 with
          | none => none
          | some (txt, rest') =>
            let clean := stripChars txt ['{', '}', '(', ')']
            let toks := words (String.ofList (clean.toList.map fun c => if c == ';' || c == ',' then ' ' else c))
            if !toks.all isFloatTok then none else
            let n := a.toNat!; let k := b.toNat!
            if toks.length == n * k then
              readEv fuel rest' { d with evecs := some (n, k, chunk n k toks) }
            else readEv fuel rest' d
        | _ => none
    else readEv fuel rest d

/-! ### vertex functions -/

def writeVfunc (vals : List String) : List String := ["Solution:", "(" ++ ",".intercalate vals ++ ")"]

/-- `read_vfunc`; `none` = exception (`"Solution:"` missing or a non-numeric entry) -/
def readVfunc (lines : List String) : Option (List String) :=
  let txt := lines.map (·.trimAscii.toString)
  if !txt.contains "Solution:" then none else
  let txt := (txt.erase "Solution:").map fun x => stripChars x ['{', '(', ')', '}']
  let vals := match txt with
    | [one] => splitBy (fun c => c == ',' || c == ';') one
    | _ => txt
  let vals := vals.map (·.trimAscii.toString)
  if vals.all isFloatTok then some vals else none

end Formats
end LapyVerif
