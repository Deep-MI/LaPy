import Mathlib.Tactic.Ring
import LapyVerif.Lemmas.BridgeTac
import LapyVerif.Lemmas.RefineTopo
import LapyVerif.Model.Measures
import LapyVerif.Model.TetTopo
import LapyVerif.Props.C13
/-
  C11 — one refinement step keeps the old vertices, adds one midpoint vertex per edge, replaces every triangle by four
  children with the same winding; `rm_free_vertices_` renumbers by rank.
  Model: `Refine.refine1`, `Refine.refine`, `RmFree.tri`, `RmFree.tet` (`Model/Refine.lean`).
  Of the property's clauses, "the four children tile the parent" is present only through its consequences (area
  vectors, areas, volume and centroid add up child by child); the number of boundary loops has no theorem, the rebuilt
  adjacency is `Props.C20.inv_step`.
-/
namespace LapyVerif.Props.C11
open Refine

section
variable {K : Type} [Zero K] [Add K] [Mul K] [Div K] [NatCast K]

/-- `Distinct`, `InRange` are written as in `Props.C09`; they unfold to `∀ τ ∈ ts, OrientMesh.TriDistinct τ` and to the
    spelled-out range hypothesis, the forms `Lemmas/RefineTopo` and `Lemmas/Count` take -/
def Distinct (ts : List Tri) : Prop := ∀ τ ∈ ts, τ.1 ≠ τ.2.1 ∧ τ.2.1 ≠ τ.2.2 ∧ τ.2.2 ≠ τ.1
def InRange (n : Nat) (ts : List Tri) : Prop := ∀ τ ∈ ts, τ.1 < n ∧ τ.2.1 < n ∧ τ.2.2 < n
def InRange4 (n : Nat) (ts : List Tet) : Prop := ∀ τ ∈ ts, τ.1 < n ∧ τ.2.1 < n ∧ τ.2.2.1 < n ∧ τ.2.2.2 < n

instance (ts : List Tri) : Decidable (Distinct ts) := by unfold Distinct; infer_instance
instance (n : Nat) (ts : List Tri) : Decidable (InRange n ts) := by unfold InRange; infer_instance

/-- the vertex array read as a function (out-of-range reads give the zero vector): the `let vtx` of `Refine.refine1`,
    the same function as `History.vtxOfList` -/
def vtxOf (verts : List (V3 K)) : Nat → V3 K := fun i => verts.getD i ⟨0, 0, 0⟩

theorem refine_verts_eq (verts : List (V3 K)) (ts : List Tri) :
    (refine1 verts ts).1 = verts ++ (edgeList ts).map fun k => midpoint (vtxOf verts k.1) (vtxOf verts k.2) := rfl

theorem refine_tris_length (verts : List (V3 K)) (ts : List Tri) : (refine1 verts ts).2.length = 4 * ts.length := by
  rw [refine1_tris, refTris_length]

theorem refine_verts_length (verts : List (V3 K)) (ts : List Tri) :
    (refine1 verts ts).1.length = verts.length + (edgeList ts).length := by
  rw [refine_verts_eq, List.length_append, List.length_map]

theorem refine_counts (verts : List (V3 K)) (ts : List Tri) :
    (refine1 verts ts).2.length = 4 * ts.length ∧
    (refine1 verts ts).1.length = verts.length + (edgeList ts).length :=
  ⟨refine_tris_length verts ts, refine_verts_length verts ts⟩

/-- `edgeList ts` lists every undirected edge `(i,j)`, `i ≤ j`, of the mesh exactly once, in row-major order -/
theorem edgeList_spec (ts : List Tri) :
    (edgeList ts).Nodup ∧
    (∀ i j, (i, j) ∈ edgeList ts ↔ i ≤ j ∧ (i, j) ∈ Topo.symKeys ts) ∧
    (edgeList ts).Pairwise (fun a b => Topo.lexLe a b = true) :=
  ⟨edgeList_nodup ts, fun _ _ => mem_edgeList, Topo.pairwise_sortLex _⟩

theorem edgeList_lt {ts : List Tri} (hd : Distinct ts) : ∀ k ∈ edgeList ts, k.1 < k.2 := by
  intro k hk
  rw [mem_edgeList] at hk
  have := symKeys_ne hd hk.2
  omega

/-- … and their number is the number of distinct undirected edges `{i,j}`, `i < j` (the `triu(adj_sym, 1)` count) -/
theorem edgeList_length {ts : List Tri} (hd : Distinct ts) :
    (edgeList ts).length = (Measures.undirectedEdges (Topo.symKeys ts)).length := by
  unfold Measures.undirectedEdges
  symm
  apply eraseDups_length_eq (edgeList_nodup ts)
  intro k
  rw [mem_edgeList, List.mem_filter, decide_eq_true_eq]
  constructor
  · rintro ⟨h1, h2⟩; have := symKeys_ne hd h2; exact ⟨h2, by omega⟩
  · rintro ⟨h1, h2⟩; exact ⟨by omega, h1⟩

theorem refine_keeps_old (verts : List (V3 K)) (ts : List Tri) (i : Nat) (hi : i < verts.length) :
    (refine1 verts ts).1[i]? = verts[i]? := by
  rw [refine_verts_eq]
  exact List.getElem?_append_left hi

theorem refine_midpoints (verts : List (V3 K)) (ts : List Tri) (k : Nat) (hk : k < (edgeList ts).length) :
    (refine1 verts ts).1[verts.length + k]? =
      some (midpoint (vtxOf verts (edgeList ts)[k].1) (vtxOf verts (edgeList ts)[k].2)) := by
  rw [refine_verts_eq, List.getElem?_append_right (Nat.le_add_right _ _)]
  simp only [Nat.add_sub_cancel_left, List.getElem?_map, List.getElem?_eq_getElem hk, Option.map_some]

theorem vtxOf_refine_old (verts : List (V3 K)) (ts : List Tri) (i : Nat) (hi : i < verts.length) :
    vtxOf (refine1 verts ts).1 i = vtxOf verts i := by
  simp only [vtxOf, List.getD_eq_getElem?_getD, refine_keeps_old verts ts i hi]

theorem vtxOf_refine_new (verts : List (V3 K)) (ts : List Tri) (k : Nat) (hk : k < (edgeList ts).length) :
    vtxOf (refine1 verts ts).1 (verts.length + k) =
      midpoint (vtxOf verts (edgeList ts)[k].1) (vtxOf verts (edgeList ts)[k].2) := by
  simp only [vtxOf, List.getD_eq_getElem?_getD]
  rw [refine_midpoints verts ts k hk]
  rfl

theorem edgeVertex_spec {ts : List Tri} {a b : Nat} (vno : Nat) (h : (a, b) ∈ Topo.symKeys ts) :
    (∃ k, ∃ hk : k < (edgeList ts).length, (edgeList ts)[k] = (min a b, max a b) ∧
      edgeVertex (edgeList ts) vno a b = vno + k) ∧
    edgeVertex (edgeList ts) vno a b = edgeVertex (edgeList ts) vno b a :=
  ⟨edgeVertex_of_symKeys vno h, edgeVertex_comm _ _ _ _⟩

/-- the edge at position `k` of `edgeList` gets the new index `vno + k` -/
theorem edgeVertex_edgeList (ts : List Tri) (vno k : Nat) (hk : k < (edgeList ts).length) :
    edgeVertex (edgeList ts) vno (edgeList ts)[k].1 (edgeList ts)[k].2 = vno + k :=
  edgeVertex_getElem (edgeList_nodup ts) vno k hk (mem_edgeList.mp (List.getElem_mem hk)).1

/-- the coordinates of a midpoint; flattening with these keeps the numeral casts of `midpoint` away from `ring` -/
theorem midpoint_x (a b : V3 ℝ) : (midpoint a b).x = (a.x + b.x) / 2 := by
  simp only [midpoint, V3.smul_x, V3.add_x, Nat.cast_one, Nat.cast_ofNat, one_div, inv_mul_eq_div]
theorem midpoint_y (a b : V3 ℝ) : (midpoint a b).y = (a.y + b.y) / 2 := by
  simp only [midpoint, V3.smul_y, V3.add_y, Nat.cast_one, Nat.cast_ofNat, one_div, inv_mul_eq_div]
theorem midpoint_z (a b : V3 ℝ) : (midpoint a b).z = (a.z + b.z) / 2 := by
  simp only [midpoint, V3.smul_z, V3.add_z, Nat.cast_one, Nat.cast_ofNat, one_div, inv_mul_eq_div]

theorem midpoint_comm (a b : V3 ℝ) : midpoint a b = midpoint b a := by
  apply V3.ext' <;> simp only [midpoint_x, midpoint_y, midpoint_z, add_comm]

theorem midpoint_self (a : V3 ℝ) : midpoint a a = a := by
  simp only [V3.ext'_iff, midpoint_x, midpoint_y, midpoint_z]
  and_intros <;> ring

theorem children_vertices (verts : List (V3 ℝ)) {ts : List Tri} {a b : Nat} (h : (a, b) ∈ Topo.symKeys ts) :
    vtxOf (refine1 verts ts).1 (edgeVertex (edgeList ts) verts.length a b) = midpoint (vtxOf verts a) (vtxOf verts b) := by
  obtain ⟨k, hk, hget, hev⟩ := (edgeVertex_spec verts.length h).1
  rw [hev, vtxOf_refine_new verts ts k hk, hget]
  rcases Nat.le_total a b with hab | hab
  · rw [Nat.min_eq_left hab, Nat.max_eq_right hab]
  · rw [Nat.min_eq_right hab, Nat.max_eq_left hab]; exact midpoint_comm _ _

open V3

/-- un-normalised normal of the triangle `(a,b,c)`: twice the area vector -/
def triCross (a b c : V3 ℝ) : V3 ℝ := cross (b - a) (c - a)
/-- integrand of the divergence-theorem volume: the origin-cone term (`Props.C12.cone` for a triangle given by its
    corner positions; not `Fem.triVol`, which is `4·area`) -/
def triCone (a b c : V3 ℝ) : ℝ := dot a (cross (b - a) (c - a))
noncomputable def triCentroid (a b c : V3 ℝ) : V3 ℝ := smul (1 / 3) (a + b + c)

/-- each child has one quarter of the parent's area vector: same plane, same winding, a quarter of the area -/
theorem child_cross (p0 p1 p2 : V3 ℝ) :
    triCross p0 (midpoint p0 p1) (midpoint p2 p0) = smul (1 / 4) (triCross p0 p1 p2) ∧
    triCross p1 (midpoint p1 p2) (midpoint p0 p1) = smul (1 / 4) (triCross p0 p1 p2) ∧
    triCross p2 (midpoint p2 p0) (midpoint p1 p2) = smul (1 / 4) (triCross p0 p1 p2) ∧
    triCross (midpoint p0 p1) (midpoint p1 p2) (midpoint p2 p0) = smul (1 / 4) (triCross p0 p1 p2) := by
  v3_flat [triCross, V3.ext'_iff, midpoint_x, midpoint_y, midpoint_z]
  and_intros <;> ring

theorem child_volume (p0 p1 p2 : V3 ℝ) :
    triCone p0 (midpoint p0 p1) (midpoint p2 p0) + triCone p1 (midpoint p1 p2) (midpoint p0 p1) +
    triCone p2 (midpoint p2 p0) (midpoint p1 p2) + triCone (midpoint p0 p1) (midpoint p1 p2) (midpoint p2 p0)
      = triCone p0 p1 p2 := by
  simp only [triCone, dot_cross_sub_sub]
  v3_flat [midpoint_x, midpoint_y, midpoint_z]; ring

theorem midpoint_eq (a b : V3 ℝ) : midpoint a b = smul (1 / 2) a + smul (1 / 2) b := by
  refine ext_dot fun w => ?_
  simp only [midpoint, dot_add_right, dot_smul_right, Nat.cast_one, Nat.cast_ofNat]; ring

/-- the children's centroids, each weighted by its area fraction `1/4`, add up to the parent's centroid -/
theorem child_centroid (p0 p1 p2 : V3 ℝ) :
    smul (1 / 4) (triCentroid p0 (midpoint p0 p1) (midpoint p2 p0)) +
    smul (1 / 4) (triCentroid p1 (midpoint p1 p2) (midpoint p0 p1)) +
    smul (1 / 4) (triCentroid p2 (midpoint p2 p0) (midpoint p1 p2)) +
    smul (1 / 4) (triCentroid (midpoint p0 p1) (midpoint p1 p2) (midpoint p2 p0)) = triCentroid p0 p1 p2 := by
  refine ext_dot fun w => ?_
  simp only [triCentroid, midpoint_eq, dot_add_right, dot_smul_right]; ring

noncomputable def childVals {β : Type} (g : V3 ℝ → V3 ℝ → V3 ℝ → β) (p0 p1 p2 : V3 ℝ) : List β :=
  [g p0 (midpoint p0 p1) (midpoint p2 p0), g p1 (midpoint p1 p2) (midpoint p0 p1),
   g p2 (midpoint p2 p0) (midpoint p1 p2), g (midpoint p0 p1) (midpoint p1 p2) (midpoint p2 p0)]

/-- a function of the three corner positions, listed over the refined mesh, consists parent by parent of its values
    on the four children built from the parent's corners and edge midpoints -/
theorem refine_map_corners {β : Type} (verts : List (V3 ℝ)) (ts : List Tri) (hr : InRange verts.length ts)
    (g : V3 ℝ → V3 ℝ → V3 ℝ → β) :
    ((refine1 verts ts).2.map fun τ => g (vtxOf (refine1 verts ts).1 τ.1) (vtxOf (refine1 verts ts).1 τ.2.1)
        (vtxOf (refine1 verts ts).1 τ.2.2)) =
      ts.flatMap fun τ => childVals g (vtxOf verts τ.1) (vtxOf verts τ.2.1) (vtxOf verts τ.2.2) := by
  rw [refine1_tris, refTris, List.map_flatMap]
  apply List.flatMap_congr
  intro τ hτ
  obtain ⟨h0, h1, h2⟩ := hr τ hτ
  obtain ⟨e0, e1, e2⟩ := tri_symKeys hτ
  simp only [children, List.map_cons, List.map_nil, childVals, vtxOf_refine_old verts ts _ h0,
    vtxOf_refine_old verts ts _ h1, vtxOf_refine_old verts ts _ h2, children_vertices verts e0,
    children_vertices verts e1, children_vertices verts e2]

theorem refine_sum_corners (verts : List (V3 ℝ)) (ts : List Tri) (hr : InRange verts.length ts)
    (g : V3 ℝ → V3 ℝ → V3 ℝ → ℝ) (hg : ∀ p0 p1 p2, (childVals g p0 p1 p2).sum = g p0 p1 p2) :
    ((refine1 verts ts).2.map fun τ => g (vtxOf (refine1 verts ts).1 τ.1) (vtxOf (refine1 verts ts).1 τ.2.1)
        (vtxOf (refine1 verts ts).1 τ.2.2)).sum =
      (ts.map fun τ => g (vtxOf verts τ.1) (vtxOf verts τ.2.1) (vtxOf verts τ.2.2)).sum := by
  rw [refine_map_corners verts ts hr g, List.flatMap_def, List.sum_flatten, List.map_map]
  exact congrArg List.sum (List.map_congr_left fun τ _ => hg _ _ _)

/-- **the divergence-theorem volume sum is unchanged by a refinement step** (no orientation, closedness or
    non-degeneracy hypothesis: it is an identity triangle by triangle) -/
theorem refine_volumeSum (verts : List (V3 ℝ)) (ts : List Tri) (hr : InRange verts.length ts) :
    Measures.volumeSum (vtxOf (refine1 verts ts).1) (refine1 verts ts).2 = Measures.volumeSum (vtxOf verts) ts :=
  congrArg (· / Measures.c 6) (refine_sum_corners verts ts hr triCone fun p0 p1 p2 => by
    simpa only [childVals, List.sum_cons, List.sum_nil, add_zero, add_assoc] using child_volume p0 p1 p2)

def crossList (vtx : Nat → V3 ℝ) (ts : List Tri) : List (V3 ℝ) :=
  ts.map fun τ => triCross (vtx τ.1) (vtx τ.2.1) (vtx τ.2.2)

/-- **parent by parent, the area vectors of the refined mesh are four copies of a quarter of the parent's** -/
theorem refine_crossList (verts : List (V3 ℝ)) (ts : List Tri) (hr : InRange verts.length ts) :
    crossList (vtxOf (refine1 verts ts).1) (refine1 verts ts).2 =
      (crossList (vtxOf verts) ts).flatMap fun n => List.replicate 4 (smul (1 / 4) n) := by
  rw [crossList, crossList, refine_map_corners verts ts hr triCross, List.flatMap_map]
  apply List.flatMap_congr
  intro τ _
  obtain ⟨c0, c1, c2, c3⟩ := child_cross (vtxOf verts τ.1) (vtxOf verts τ.2.1) (vtxOf verts τ.2.2)
  simp only [childVals, c0, c1, c2, c3]
  rfl

theorem child_triArea (p0 p1 p2 : V3 ℝ) :
    childVals Spec.triArea p0 p1 p2 = List.replicate 4 (Spec.triArea p0 p1 p2 / 4) := by
  have hq : ∀ n : V3 ℝ, Real.sqrt (normSq (smul (1 / 4) n)) / 2 = Real.sqrt (normSq n) / 2 / 4 := by
    intro n
    rw [V3.normSq_smul, Real.sqrt_mul (mul_self_nonneg _), Real.sqrt_mul_self (by norm_num)]
    ring
  obtain ⟨c0, c1, c2, c3⟩ := child_cross p0 p1 p2
  simp only [triCross] at c0 c1 c2 c3
  simp only [childVals, Spec.triArea, Spec.triN, c0, c1, c2, c3, hq]
  rfl

theorem child_triArea_sum (p0 p1 p2 : V3 ℝ) : (childVals Spec.triArea p0 p1 p2).sum = Spec.triArea p0 p1 p2 := by
  rw [child_triArea]
  simp only [List.replicate, List.sum_cons, List.sum_nil]
  ring

/-- **the total cross-product area `Σ ½‖cross‖` (the one used by `vertex_areas` and `centroid`) is unchanged** -/
theorem refine_crossArea (verts : List (V3 ℝ)) (ts : List Tri) (hr : InRange verts.length ts) :
    (((refine1 verts ts).2).map fun τ =>
        Measures.crossArea (vtxOf (refine1 verts ts).1 τ.1) (vtxOf (refine1 verts ts).1 τ.2.1)
          (vtxOf (refine1 verts ts).1 τ.2.2)).sum =
    (ts.map fun τ => Measures.crossArea (vtxOf verts τ.1) (vtxOf verts τ.2.1) (vtxOf verts τ.2.2)).sum := by
  simp only [Measures.crossArea_eq]
  exact refine_sum_corners verts ts hr Spec.triArea child_triArea_sum

/-- Heron areas of the four children add up to the parent's Heron area (Heron's formula gives the cross-product area) -/
theorem child_heron (p0 p1 p2 : V3 ℝ) :
    Measures.heron p0 (midpoint p0 p1) (midpoint p2 p0) + (Measures.heron p1 (midpoint p1 p2) (midpoint p0 p1) +
    (Measures.heron p2 (midpoint p2 p0) (midpoint p1 p2) +
     Measures.heron (midpoint p0 p1) (midpoint p1 p2) (midpoint p2 p0))) = Measures.heron p0 p1 p2 := by
  simpa only [C13.heron_eq_cross, childVals, List.sum_cons, List.sum_nil, add_zero] using child_triArea_sum p0 p1 p2

/-- **the total (Heron) area `TriaMesh.area()` is unchanged by a refinement step** -/
theorem refine_area (verts : List (V3 ℝ)) (ts : List Tri) (hr : InRange verts.length ts) :
    Measures.area (vtxOf (refine1 verts ts).1) (refine1 verts ts).2 = Measures.area (vtxOf verts) ts := by
  rw [C13.area_eq_sum, C13.area_eq_sum]
  exact refine_sum_corners verts ts hr Spec.triArea child_triArea_sum

theorem refine_zero (verts : List (V3 K)) (ts : List Tri) : refine 0 verts ts = (verts, ts) := rfl

theorem refine_succ (n : Nat) (verts : List (V3 K)) (ts : List Tri) :
    refine (n + 1) verts ts = (let r := refine1 verts ts; refine n r.1 r.2) := rfl

theorem refine_one (verts : List (V3 K)) (ts : List Tri) : refine 1 verts ts = refine1 verts ts := rfl

theorem refine_add (m n : Nat) (verts : List (V3 K)) (ts : List Tri) :
    refine (m + n) verts ts = refine n (refine m verts ts).1 (refine m verts ts).2 := by
  induction m generalizing verts ts with
  | zero => simp only [Nat.zero_add, refine_zero]
  | succ m ih => rw [Nat.add_right_comm, refine_succ, refine_succ]; exact ih _ _

theorem refine_iter (n : Nat) (verts : List (V3 K)) (ts : List Tri) :
    refine n verts ts = (fun p : List (V3 K) × List Tri => refine1 p.1 p.2)^[n] (verts, ts) := by
  induction n generalizing verts ts with
  | zero => rfl
  | succ n ih => rw [refine_succ, Function.iterate_succ_apply]; exact ih _ _

theorem refine_tris_length_iter (n : Nat) (verts : List (V3 K)) (ts : List Tri) :
    (refine n verts ts).2.length = 4 ^ n * ts.length := by
  induction n generalizing verts ts with
  | zero => simp [refine_zero]
  | succ n ih => rw [refine_succ]; simp only; rw [ih, refine_tris_length]; ring

/-! ### topology of the refined mesh

  The statements "`is_oriented`, `is_manifold`, Euler characteristic are unchanged" are FALSE for the model (and for the
  code) if only `Distinct` and `InRange` are assumed: two triangles with the same vertex set share their three new
  vertices, so their inner edges coincide.  Counterexample: the "pillow" `[(0,1,2),(0,2,1)]` is closed, manifold,
  oriented with Euler characteristic 2; its refinement has the inner half-edge `(m20,m01)` twice and every inner edge
  in four triangles: not oriented, not manifold, Euler characteristic 5 (see the `example`s at the end).
  The theorems below therefore carry the extra hypothesis `FaceSimple` (no two triangles have the same vertex set) and
  the suffix `_partial`.  Closedness needs no extra hypothesis. -/

/-- no triangle's vertex set contains that of an earlier triangle of the list; together with `Distinct` (all vertex sets
    have three elements) this says that no two triangles have the same vertex set, whatever their order -/
def FaceSimple (ts : List Tri) : Prop := ts.Pairwise (fun τ σ => ¬ Refine.SameVerts τ σ)

instance (ts : List Tri) : Decidable (FaceSimple ts) := by unfold FaceSimple; infer_instance

abbrev newVertex (verts : List (V3 K)) (ts : List Tri) (a b : Nat) : Nat := edgeVertex (edgeList ts) verts.length a b

omit [Zero K] [Add K] [Mul K] [Div K] [NatCast K] in
theorem newVertex_spec (verts : List (V3 K)) (ts : List Tri) :
    (∀ a b, newVertex verts ts a b = newVertex verts ts b a) ∧
    (∀ a b, (a, b) ∈ Topo.symKeys ts → verts.length ≤ newVertex verts ts a b ∧
      newVertex verts ts a b < verts.length + (edgeList ts).length) ∧
    (∀ a b c d, (a, b) ∈ Topo.symKeys ts → (c, d) ∈ Topo.symKeys ts → newVertex verts ts a b = newVertex verts ts c d →
      (a = c ∧ b = d) ∨ (a = d ∧ b = c)) := by
  have hm := edgeVertex_edgeMap verts.length ts
  refine ⟨hm.comm, fun a b h => ⟨hm.ge a b h, ?_⟩, hm.inj⟩
  obtain ⟨k, hk, _, hev⟩ := (edgeVertex_spec verts.length h).1
  show edgeVertex (edgeList ts) verts.length a b < _
  omega

/-- **every half-edge of the refined mesh is a first half `(i, m_ij)` or a second half `(m_ij, j)` of a parent
    half-edge `(i,j)`, or one of the six inner half-edges of a parent** -/
theorem refine_halfEdges (verts : List (V3 K)) (ts : List Tri) (k : Nat × Nat) :
    k ∈ Topo.dirKeys (refine1 verts ts).2 ↔
      (∃ s ∈ Topo.dirKeys ts, k = (s.1, newVertex verts ts s.1 s.2)) ∨
      (∃ s ∈ Topo.dirKeys ts, k = (newVertex verts ts s.1 s.2, s.2)) ∨
      k ∈ ts.flatMap (Refine.inner (newVertex verts ts)) := by
  rw [refine1_tris, (dirKeys_refTris_perm _ ts).mem_iff]
  simp only [List.mem_append, List.mem_map, φA, φB, eq_comm]

/-- **the two halves of a parent half-edge occur as often as the parent half-edge; any other half-edge of the refined
    mesh is an inner one** -/
theorem refine_halfEdge_count (verts : List (V3 K)) (ts : List Tri) (hr : InRange verts.length ts) :
    (∀ s ∈ Topo.dirKeys ts,
      (Topo.dirKeys (refine1 verts ts).2).count (s.1, newVertex verts ts s.1 s.2) = (Topo.dirKeys ts).count s ∧
      (Topo.dirKeys (refine1 verts ts).2).count (newVertex verts ts s.1 s.2, s.2) = (Topo.dirKeys ts).count s) ∧
    (∀ k, (Topo.dirKeys (refine1 verts ts).2).count k = (ts.flatMap (Refine.inner (newVertex verts ts))).count k ∨
      ∃ s ∈ Topo.dirKeys ts, (Topo.dirKeys (refine1 verts ts).2).count k = (Topo.dirKeys ts).count s) := by
  rw [refine1_tris]
  have hm := edgeVertex_edgeMap verts.length ts
  obtain ⟨h1, h2, -, h3⟩ :=
    count_decomp hm hr (dirKeys_sub_symKeys ts) (innerAll_ge hm) (dirKeys_refTris_perm _ ts)
  exact ⟨fun s hs => ⟨h1 s hs, h2 s hs⟩, h3⟩

omit [Zero K] [Add K] [Mul K] [Div K] [NatCast K] in
/-- **the list of inner half-edges has no repetition** (three inner edges per parent, once in each direction: `6 T` in
    all).  That an inner half-edge occurs among *all* half-edges of the refined mesh as often as in this list is the third
    clause of `Refine.count_decomp`; `refine_halfEdge_count` does not restate it. -/
theorem refine_inner_once (verts : List (V3 K)) (ts : List Tri) (hd : Distinct ts) (hs : FaceSimple ts) :
    (ts.flatMap (Refine.inner (newVertex verts ts))).Nodup ∧
    (ts.flatMap (Refine.inner (newVertex verts ts))).length = 6 * ts.length ∧
    (∀ k, k ∈ ts.flatMap (Refine.inner (newVertex verts ts)) → (k.2, k.1) ∈ ts.flatMap (Refine.inner (newVertex verts ts))) := by
  refine ⟨innerAll_nodup (edgeVertex_edgeMap verts.length ts) hd hs, innerAll_length _ _, ?_⟩
  intro k hk
  obtain ⟨τ, hτ, hk⟩ := List.mem_flatMap.mp hk
  refine List.mem_flatMap.mpr ⟨τ, hτ, ?_⟩
  simp only [Refine.inner, List.mem_cons, List.not_mem_nil, or_false] at hk ⊢
  rcases hk with rfl | rfl | rfl | rfl | rfl | rfl <;> simp

theorem refine_isClosed (verts : List (V3 K)) (ts : List Tri) (hr : InRange verts.length ts) :
    Topo.isClosed (refine1 verts ts).2 = Topo.isClosed ts := by
  rw [refine1_tris]; exact isClosed_refTris (edgeVertex_edgeMap verts.length ts) hr

theorem refine_isManifold_partial (verts : List (V3 K)) (ts : List Tri) (hr : InRange verts.length ts)
    (hd : Distinct ts) (hs : FaceSimple ts) : Topo.isManifold (refine1 verts ts).2 = Topo.isManifold ts := by
  rw [refine1_tris]; exact isManifold_refTris (edgeVertex_edgeMap verts.length ts) hr hd hs

theorem refine_isOriented_partial (verts : List (V3 K)) (ts : List Tri) (hr : InRange verts.length ts)
    (hd : Distinct ts) (hs : FaceSimple ts) : Topo.isOriented (refine1 verts ts).2 = Topo.isOriented ts := by
  rw [refine1_tris]; exact isOriented_refTris (edgeVertex_edgeMap verts.length ts) hr hd hs

/-- the three counts entering the Euler characteristic: `V' = V + E`, `E' = 2E + 3T`, `T' = 4T` -/
theorem refine_VET_partial (verts : List (V3 K)) (ts : List Tri) (hr : InRange verts.length ts)
    (hd : Distinct ts) (hs : FaceSimple ts) :
    (Topo.usedVerts (refine1 verts ts).2).length = (Topo.usedVerts ts).length + (edgeList ts).length ∧
    Coo.nnz (Topo.adjSym ts) / 2 = (edgeList ts).length ∧
    Coo.nnz (Topo.adjSym (refine1 verts ts).2) / 2 = 2 * (edgeList ts).length + 3 * ts.length ∧
    (refine1 verts ts).2.length = 4 * ts.length := by
  have hm := edgeVertex_edgeMap verts.length ts
  have hV := usedVerts_refTris hm hr
  rw [edgeVertex_image_card] at hV
  have hN := nnz_refTris hm hr hd hs
  have hE := nnz_eq_two_edges hd
  refine ⟨?_, ?_, ?_, refine_tris_length verts ts⟩
  · rw [refine1_tris, usedVerts_length, usedVerts_length]; exact hV
  · rw [Topo.nnz_adjSym, hE]; omega
  · rw [refine1_tris, Topo.nnz_adjSym, hN, hE]; omega

theorem refine_euler_partial (verts : List (V3 K)) (ts : List Tri) (hr : InRange verts.length ts)
    (hd : Distinct ts) (hs : FaceSimple ts) : Topo.euler (refine1 verts ts).2 = Topo.euler ts := by
  obtain ⟨hV, hE, hE', hT⟩ := refine_VET_partial verts ts hr hd hs
  simp only [Topo.euler, hV, hE, hE', hT]
  push_cast
  ring

/-- **`volume()` (with its closedness / orientation guards) is unchanged** for meshes without repeated faces -/
theorem refine_volume_partial (verts : List (V3 ℝ)) (ts : List Tri) (hr : InRange verts.length ts)
    (hd : Distinct ts) (hs : FaceSimple ts) :
    Measures.volume (vtxOf (refine1 verts ts).1) (refine1 verts ts).2 = Measures.volume (vtxOf verts) ts :=
  Measures.volume_congr (refine_isClosed verts ts hr) (refine_isOriented_partial verts ts hr hd hs)
    fun _ _ => refine_volumeSum verts ts hr

/-- `Σ` of a list of vectors, left to right from the zero vector (as `np.sum(axis=0)` in the model) -/
def vsum (l : List (V3 ℝ)) : V3 ℝ := l.foldl (· + ·) ⟨0, 0, 0⟩

theorem vsum_eq_sum (l : List (V3 ℝ)) : vsum l = l.sum :=
  (V3.foldl_add l 0).trans (V3.zero_add _)

theorem vsum_nil : vsum [] = ⟨0, 0, 0⟩ := rfl

theorem vsum_cons (x : V3 ℝ) (l : List (V3 ℝ)) : vsum (x :: l) = x + vsum l := by
  rw [vsum_eq_sum, vsum_eq_sum, List.sum_cons]

theorem vsum_append (l m : List (V3 ℝ)) : vsum (l ++ m) = vsum l + vsum m := by
  induction l with
  | nil => exact (V3.zero_add _).symm
  | cons x l ih => simp only [List.cons_append, vsum_cons, ih, V3.add_assoc]

theorem vsum_flatMap {α : Type} (g : α → List (V3 ℝ)) (l : List α) :
    vsum (l.flatMap g) = vsum (l.map fun a => vsum (g a)) := by
  induction l with
  | nil => rfl
  | cons a l ih => simp only [List.flatMap_cons, vsum_append, List.map_cons, vsum_cons, ih]

theorem child_weightedCentre (T : ℝ) (p0 p1 p2 : V3 ℝ) :
    vsum (childVals (C13.weightedCentre T) p0 p1 p2) = C13.weightedCentre T p0 p1 p2 := by
  have h := child_triArea p0 p1 p2
  simp only [childVals, List.replicate, List.cons.injEq, and_true] at h
  obtain ⟨a0, a1, a2, a3⟩ := h
  simp only [childVals, vsum_cons, vsum_nil, C13.weightedCentre, a0, a1, a2, a3]
  refine ext_dot fun w => ?_
  simp only [midpoint_eq, dot_add_right, dot_smul_right, dot_zero_right]; ring

/-- **`centroid()` (centroid and total area) is unchanged by a refinement step** -/
theorem refine_centroid (verts : List (V3 ℝ)) (ts : List Tri) (hr : InRange verts.length ts) :
    Measures.centroid (vtxOf (refine1 verts ts).1) (refine1 verts ts).2 = Measures.centroid (vtxOf verts) ts := by
  rw [C13.centroid_eq, C13.centroid_eq, refine_area verts ts hr, ← vsum_eq_sum, ← vsum_eq_sum,
    refine_map_corners verts ts hr (C13.weightedCentre _), vsum_flatMap]
  simp only [child_weightedCentre]

theorem refine_inRange (verts : List (V3 K)) (ts : List Tri) (hr : InRange verts.length ts) : InRange (refine1 verts ts).1.length (refine1 verts ts).2 := by
  rw [refine_verts_length, refine1_tris]
  exact refTris_inRange hr _ (fun a b h => ((newVertex_spec verts ts).2.1 a b h).2)

theorem refine_inherits (verts : List (V3 K)) (ts : List Tri) (hr : InRange verts.length ts) (hd : Distinct ts)
    (hs : FaceSimple ts) :
    InRange (refine1 verts ts).1.length (refine1 verts ts).2 ∧ Distinct (refine1 verts ts).2 ∧
    FaceSimple (refine1 verts ts).2 := by
  have hm := edgeVertex_edgeMap verts.length ts
  refine ⟨refine_inRange verts ts hr, ?_, ?_⟩ <;> rw [refine1_tris]
  exacts [refTris_distinct hm hr hd, refTris_faceSimple hm hr hd hs]

/-- **`refine_(it)` keeps closedness, manifoldness, orientedness and the Euler characteristic** and multiplies the
    number of triangles by `4^it` -/
theorem refine_iter_topology_partial (n : Nat) (verts : List (V3 K)) (ts : List Tri) (hr : InRange verts.length ts)
    (hd : Distinct ts) (hs : FaceSimple ts) :
    (InRange (refine n verts ts).1.length (refine n verts ts).2 ∧ Distinct (refine n verts ts).2 ∧
      FaceSimple (refine n verts ts).2) ∧
    Topo.isClosed (refine n verts ts).2 = Topo.isClosed ts ∧
    Topo.isManifold (refine n verts ts).2 = Topo.isManifold ts ∧
    Topo.isOriented (refine n verts ts).2 = Topo.isOriented ts ∧
    Topo.euler (refine n verts ts).2 = Topo.euler ts ∧
    (refine n verts ts).2.length = 4 ^ n * ts.length := by
  induction n generalizing verts ts with
  | zero => exact ⟨⟨hr, hd, hs⟩, rfl, rfl, rfl, rfl, by simp [refine_zero]⟩
  | succ n ih =>
    obtain ⟨hr', hd', hs'⟩ := refine_inherits verts ts hr hd hs
    obtain ⟨hi, h1, h2, h3, h4, h5⟩ := ih (refine1 verts ts).1 (refine1 verts ts).2 hr' hd' hs'
    rw [refine_succ]
    refine ⟨hi, h1.trans (refine_isClosed verts ts hr), h2.trans (refine_isManifold_partial verts ts hr hd hs),
      h3.trans (refine_isOriented_partial verts ts hr hd hs), h4.trans (refine_euler_partial verts ts hr hd hs), ?_⟩
    simp only [h5, refine_tris_length]; ring

/-- **`refine_(it)` keeps the volume sum, the total area (Heron and cross-product) and the centroid** -/
theorem refine_iter_measures (n : Nat) (verts : List (V3 ℝ)) (ts : List Tri) (hr : InRange verts.length ts) :
    InRange (refine n verts ts).1.length (refine n verts ts).2 ∧
    Measures.volumeSum (vtxOf (refine n verts ts).1) (refine n verts ts).2 = Measures.volumeSum (vtxOf verts) ts ∧
    Measures.area (vtxOf (refine n verts ts).1) (refine n verts ts).2 = Measures.area (vtxOf verts) ts ∧
    Measures.centroid (vtxOf (refine n verts ts).1) (refine n verts ts).2 = Measures.centroid (vtxOf verts) ts := by
  induction n generalizing verts ts with
  | zero => exact ⟨hr, rfl, rfl, rfl⟩
  | succ n ih =>
    obtain ⟨hi, h1, h2, h3⟩ := ih (refine1 verts ts).1 (refine1 verts ts).2 (refine_inRange verts ts hr)
    rw [refine_succ]
    exact ⟨hi, h1.trans (refine_volumeSum verts ts hr), h2.trans (refine_area verts ts hr),
      h3.trans (refine_centroid verts ts hr)⟩

end

/-! ### `rm_free_vertices_`

  Model: namespace `RmFree` at the end of `Model/Refine.lean` (`run` for the index bookkeeping, `tri`/`tet` for the
  elements).  Helpers: `rank`, `flat3`, `flat4` in `Lemmas/RefineLemmas.lean`. -/
namespace RmFreeProps
open RmFree

def mask (used : List Nat) : Nat → Bool := fun i => used.contains i

theorem mask_iff (used : List Nat) (i : Nat) : mask used i = true ↔ i ∈ used := by
  simp [mask]

/-- `del` lists the unused indices `< nv` (it is `(range nv).filter` by definition, hence ascending) -/
theorem run_del (nv : Nat) (used : List Nat) (i : Nat) : i ∈ (run nv used).del ↔ i < nv ∧ i ∉ used := by
  simp [run]

theorem run_changed (nv : Nat) (used : List Nat) : (run nv used).changed = true ↔ ∃ i, i < nv ∧ i ∉ used := by
  rw [show (run nv used).changed = !(run nv used).del.isEmpty from rfl, Bool.not_eq_true',
    List.isEmpty_eq_false_iff_exists_mem]
  simp only [run_del]

/-- `keep` = the used indices `< nv`, also on the early-return path, where the model writes `range nv` -/
theorem run_keep (nv : Nat) (used : List Nat) : (run nv used).keep = (List.range nv).filter (mask used) := by
  show (if (run nv used).del.isEmpty then List.range nv else _) = _
  split
  · next he =>
    exact (List.filter_eq_self.mpr fun i hi => by
      simpa [mask] using List.filter_eq_nil_iff.mp (List.isEmpty_iff.mp he) i hi).symm
  · rfl

theorem run_lookup (nv : Nat) (used : List Nat) {i : Nat} (hi : i ∈ used) :
    (run nv used).lookup i = rank (mask used) i := by
  have : (run nv used).lookup i = rank (mask used) (i + 1) - 1 := rfl
  rw [this, rank_succ, if_pos ((mask_iff used i).mpr hi)]; omega

/-- nothing unused: early return, identity renumbering -/
theorem run_unchanged (nv : Nat) (used : List Nat) (h : ∀ i, i < nv → i ∈ used) :
    (run nv used).changed = false ∧ (run nv used).keep = List.range nv ∧ (run nv used).del = [] ∧
    ∀ i, i < nv → (run nv used).lookup i = i := by
  have hd : (run nv used).del = [] :=
    List.filter_eq_nil_iff.mpr fun i hi => by simpa using h i (List.mem_range.mp hi)
  have hc : (run nv used).changed = false := by
    show (!(run nv used).del.isEmpty) = false; rw [hd]; rfl
  have hk : (run nv used).keep = List.range nv := by
    show (if (run nv used).del.isEmpty then _ else _) = _; rw [hd]; rfl
  refine ⟨hc, hk, hd, fun i hi => ?_⟩
  have hall : (List.range i).filter (mask used) = List.range i := List.filter_eq_self.mpr fun j hj =>
    (mask_iff used j).mpr (h j (Nat.lt_trans (List.mem_range.mp hj) hi))
  rw [run_lookup nv used (h i hi), rank, hall, List.length_range]

theorem run_lookup_of_not_changed (nv : Nat) (used : List Nat) (hc : ¬ (run nv used).changed = true) {i : Nat}
    (hi : i < nv) : (run nv used).lookup i = i :=
  (run_unchanged nv used fun i hi => by
    by_contra hn; exact hc ((run_changed nv used).mpr ⟨i, hi, hn⟩)).2.2.2 i hi

/-- what `rm_free_vertices_` guarantees about its index bookkeeping `r` for the list `used` of element indices -/
structure RunSpec (nv : Nat) (used : List Nat) (r : Result) : Prop where
  mem_del : ∀ i, i ∈ r.del ↔ i < nv ∧ i ∉ used
  del_sorted : r.del.Pairwise (· < ·)
  mem_keep : ∀ i, i ∈ r.keep ↔ i < nv ∧ i ∈ used
  keep_sorted : r.keep.Pairwise (· < ·)
  length_add : r.keep.length + r.del.length = nv
  keep_lookup : ∀ i ∈ used, r.keep[r.lookup i]? = some i
  lookup_keep : ∀ k (hk : k < r.keep.length), r.lookup r.keep[k] = k
  lookup_strictMono : ∀ i ∈ used, ∀ j ∈ used, i < j → r.lookup i < r.lookup j
  lookup_lt : ∀ i ∈ used, r.lookup i < r.keep.length
  card : (used.map r.lookup).eraseDups.length = r.keep.length

/-- what `run` returns when all used indices are in range: the part of `rm_free_vertices_` that does not depend on the
    shape of the elements -/
theorem run_spec (nv : Nat) (used : List Nat) (hr : ∀ i ∈ used, i < nv) : RunSpec nv used (run nv used) := by
  set r := run nv used
  -- `keep` is the sub-list of `range nv` selected by the mask, `lookup` the rank in it: the facts about `rank`
  have hk : r.keep = (List.range nv).filter (mask used) := run_keep nv used
  have hl : ∀ i ∈ used, r.lookup i = rank (mask used) i := fun i hi => run_lookup nv used hi
  have hp : ∀ i ∈ used, mask used i = true := fun i hi => (mask_iff used i).mpr hi
  have hmem : ∀ i, i ∈ r.keep ↔ i < nv ∧ i ∈ used := fun i => by
    rw [hk, List.mem_filter, List.mem_range, mask_iff]
  have hsorted : r.keep.Pairwise (· < ·) := hk ▸ filter_range_sorted _ nv
  have hmono : ∀ i ∈ used, ∀ j ∈ used, i < j → r.lookup i < r.lookup j := fun i hi j hj h => by
    rw [hl i hi, hl j hj]; exact rank_strictMono _ (hp i hi) h
  refine {
    mem_del := run_del nv used
    del_sorted := filter_range_sorted _ nv
    mem_keep := hmem
    keep_sorted := hsorted
    lookup_strictMono := hmono
    length_add := ?_
    keep_lookup := fun i hi => ?_
    lookup_keep := fun k hk' => ?_
    lookup_lt := fun i hi => ?_
    card := ?_ }
  · rw [hk, show r.del = (List.range nv).filter (fun i => !mask used i) from rfl]
    have := List.length_eq_length_filter_add (l := List.range nv) (mask used)
    rw [List.length_range] at this
    exact this.symm
  · rw [hk, hl i hi]; exact filter_range_rank _ nv i (hp i hi) (hr i hi)
  · rw [hl _ ((hmem _).mp (List.getElem_mem hk')).2]
    simp only [hk]
    exact rank_getElem (mask used) nv k _
  · rw [hk, hl i hi]; exact rank_lt_length _ nv i (hp i hi) (hr i hi)
  · rw [eraseDups_length_map_inj fun x hx y hy h => ?_, eraseDups_length_eq (hsorted.imp fun h => Nat.ne_of_lt h)
      fun i => by rw [hmem]; exact ⟨fun h => h.2, fun h => ⟨hr i h, h⟩⟩]
    rcases Nat.lt_trichotomy x y with hlt | heq | hgt
    · have := hmono x hx y hy hlt; omega
    · exact heq
    · have := hmono y hy x hx hgt; omega

/-- the part of `rm_free_vertices_` that depends on the shape of the elements only through `verts` (the indices of an
    element) and `mapV` (apply a renumbering to them) -/
theorem rows_spec {E : Type} (verts : E → List Nat) (mapV : (Nat → Nat) → E → E)
    (hmap : ∀ f e, verts (mapV f e) = (verts e).map f) (hid : ∀ f e, (∀ v ∈ verts e, f v = v) → mapV f e = e)
    (nv : Nat) (es : List E) (hr : ∀ i ∈ es.flatMap verts, i < nv) :
    let r := run nv (es.flatMap verts)
    let es' := if r.changed then es.map (mapV r.lookup) else es
    es' = es.map (mapV r.lookup) ∧ (∀ e ∈ es', ∀ v ∈ verts e, v < r.keep.length) ∧
    (es'.flatMap verts).eraseDups.length = r.keep.length := by
  intro r es'
  have hrun := run_spec nv _ hr
  have hes' : es' = es.map (mapV r.lookup) := by
    show (if r.changed then _ else _) = _
    split
    · rfl
    · next hc =>
      refine ((List.map_congr_left fun e he => ?_).trans (List.map_id es)).symm
      exact hid _ e fun v hv => run_lookup_of_not_changed nv _ hc (hr v (List.mem_flatMap.2 ⟨e, he, hv⟩))
  have hflat : (es.map (mapV r.lookup)).flatMap verts = (es.flatMap verts).map r.lookup := by
    rw [List.flatMap_map, List.map_flatMap]
    exact List.flatMap_congr fun e _ => hmap _ e
  refine ⟨hes', ?_, ?_⟩
  · rw [hes']
    intro e' he' v hv
    obtain ⟨e, he, rfl⟩ := List.mem_map.1 he'
    rw [hmap] at hv
    obtain ⟨u, hu, rfl⟩ := List.mem_map.1 hv
    exact hrun.lookup_lt u (List.mem_flatMap.2 ⟨e, he, hu⟩)
  · rw [hes', hflat]
    exact hrun.card

theorem flat3_lt {nv : Nat} {ts : List Tri} (hr : InRange nv ts) : ∀ i ∈ flat3 ts, i < nv := by
  intro i hi
  obtain ⟨τ, hτ, h⟩ := mem_flat3.mp hi
  obtain ⟨h0, h1, h2⟩ := hr τ hτ
  rcases h with rfl | rfl | rfl <;> assumption

theorem rm_free_tri (nv : Nat) (ts : List Tri) (hr : InRange nv ts) :
    let r := (tri nv ts).1
    let ts' := (tri nv ts).2
    (∀ i, i ∈ r.del ↔ i < nv ∧ i ∉ flat3 ts) ∧ r.del.Pairwise (· < ·) ∧
    (∀ i, i ∈ r.keep ↔ i < nv ∧ i ∈ flat3 ts) ∧ r.keep.Pairwise (· < ·) ∧
    r.keep.length + r.del.length = nv ∧
    (∀ i ∈ flat3 ts, r.keep[r.lookup i]? = some i) ∧
    (∀ k (hk : k < r.keep.length), r.lookup r.keep[k] = k) ∧
    (∀ i ∈ flat3 ts, ∀ j ∈ flat3 ts, i < j → r.lookup i < r.lookup j) ∧
    ts' = ts.map (fun τ => (r.lookup τ.1, r.lookup τ.2.1, r.lookup τ.2.2)) ∧
    InRange r.keep.length ts' ∧
    Topo.hasFreeVertices r.keep.length ts' = false := by
  intro r ts'
  have h := run_spec nv (flat3 ts) (flat3_lt hr)
  obtain ⟨e1, e2, e3⟩ := rows_spec (fun τ : Tri => [τ.1, τ.2.1, τ.2.2]) (fun f τ => (f τ.1, f τ.2.1, f τ.2.2))
    (fun _ _ => rfl) (fun f τ h => by rw [h _ (by simp), h _ (by simp), h _ (by simp)]) nv ts (flat3_lt hr)
  refine ⟨h.mem_del, h.del_sorted, h.mem_keep, h.keep_sorted, h.length_add, h.keep_lookup, h.lookup_keep,
    h.lookup_strictMono, e1, fun τ hτ => ⟨e2 τ hτ _ (by simp), e2 τ hτ _ (by simp), e2 τ hτ _ (by simp)⟩, ?_⟩
  have hu : (Topo.usedVerts ts').length = r.keep.length := (usedVerts_length ts').trans e3
  simp only [Topo.hasFreeVertices, hu, bne_self_eq_false]

/-- nothing unused: the early return, nothing changes -/
theorem rm_free_tri_unchanged (nv : Nat) (ts : List Tri) (h : ∀ i, i < nv → i ∈ flat3 ts) :
    (tri nv ts).2 = ts ∧ (tri nv ts).1.keep = List.range nv ∧ (tri nv ts).1.del = [] ∧
    (tri nv ts).1.changed = false := by
  obtain ⟨hc, hk, hd, _⟩ := run_unchanged nv _ h
  refine ⟨?_, hk, hd, hc⟩
  show (if (run nv (flat3 ts)).changed then _ else ts) = ts
  rw [hc]; rfl

theorem rm_free_tri_changed (nv : Nat) (ts : List Tri) :
    (tri nv ts).1.changed = true ↔ ∃ i, i < nv ∧ i ∉ flat3 ts := run_changed nv _

theorem flat4_lt {nv : Nat} {ts : List Tet} (hr : InRange4 nv ts) : ∀ i ∈ flat4 ts, i < nv := by
  intro i hi
  obtain ⟨τ, hτ, h⟩ := mem_flat4.mp hi
  obtain ⟨h0, h1, h2, h3⟩ := hr τ hτ
  rcases h with rfl | rfl | rfl | rfl <;> assumption

theorem rm_free_tet (nv : Nat) (ts : List Tet) (hr : InRange4 nv ts) :
    let r := (tet nv ts).1
    let ts' := (tet nv ts).2
    (∀ i, i ∈ r.del ↔ i < nv ∧ i ∉ flat4 ts) ∧ r.del.Pairwise (· < ·) ∧
    (∀ i, i ∈ r.keep ↔ i < nv ∧ i ∈ flat4 ts) ∧ r.keep.Pairwise (· < ·) ∧
    r.keep.length + r.del.length = nv ∧
    (∀ i ∈ flat4 ts, r.keep[r.lookup i]? = some i) ∧
    (∀ k (hk : k < r.keep.length), r.lookup r.keep[k] = k) ∧
    (∀ i ∈ flat4 ts, ∀ j ∈ flat4 ts, i < j → r.lookup i < r.lookup j) ∧
    ts' = ts.map (fun τ => (r.lookup τ.1, r.lookup τ.2.1, r.lookup τ.2.2.1, r.lookup τ.2.2.2)) ∧
    InRange4 r.keep.length ts' ∧
    TetTopo.hasFreeVertices r.keep.length ts' = false := by
  intro r ts'
  have h := run_spec nv (flat4 ts) (flat4_lt hr)
  obtain ⟨e1, e2, e3⟩ := rows_spec (fun τ : Tet => [τ.1, τ.2.1, τ.2.2.1, τ.2.2.2])
    (fun f τ => (f τ.1, f τ.2.1, f τ.2.2.1, f τ.2.2.2)) (fun _ _ => rfl)
    (fun f τ h => by rw [h _ (by simp), h _ (by simp), h _ (by simp), h _ (by simp)]) nv ts (flat4_lt hr)
  refine ⟨h.mem_del, h.del_sorted, h.mem_keep, h.keep_sorted, h.length_add, h.keep_lookup, h.lookup_keep,
    h.lookup_strictMono, e1,
    fun τ hτ => ⟨e2 τ hτ _ (by simp), e2 τ hτ _ (by simp), e2 τ hτ _ (by simp), e2 τ hτ _ (by simp)⟩, ?_⟩
  have hu : (TetTopo.usedVerts ts').length = r.keep.length := e3
  simp only [TetTopo.hasFreeVertices, hu, bne_self_eq_false]

theorem rm_free_tet_unchanged (nv : Nat) (ts : List Tet) (h : ∀ i, i < nv → i ∈ flat4 ts) :
    (tet nv ts).2 = ts ∧ (tet nv ts).1.keep = List.range nv ∧ (tet nv ts).1.del = [] ∧
    (tet nv ts).1.changed = false := by
  obtain ⟨hc, hk, hd, _⟩ := run_unchanged nv _ h
  refine ⟨?_, hk, hd, hc⟩
  show (if (run nv (flat4 ts)).changed then _ else ts) = ts
  rw [hc]; rfl

theorem rm_free_tet_changed (nv : Nat) (ts : List Tet) :
    (tet nv ts).1.changed = true ↔ ∃ i, i < nv ∧ i ∉ flat4 ts := run_changed nv _

end RmFreeProps

section Examples

/-- two triangles sharing the edge `{1,2}` -/
def ts2 : List Tri := [(0, 1, 2), (1, 3, 2)]
/-- boundary of a tetrahedron (closed, oriented) -/
def tsTet : List Tri := [(0, 2, 1), (0, 1, 3), (1, 2, 3), (2, 0, 3)]
/-- the same triangle with both windings: closed, manifold, oriented, but not `FaceSimple` -/
def tsPillow : List Tri := [(0, 1, 2), (0, 2, 1)]

example : Distinct ts2 ∧ InRange 4 ts2 ∧ FaceSimple ts2 := by decide
theorem tsTet_hyps : Distinct tsTet ∧ InRange 4 tsTet ∧ FaceSimple tsTet := by decide
theorem tsTet_topology : Topo.isOriented tsTet = true ∧ Topo.isManifold tsTet = true ∧ Topo.isClosed tsTet = true := by
  decide

example : Distinct tsTet ∧ InRange 4 tsTet ∧ FaceSimple tsTet := tsTet_hyps
example : Topo.isOriented tsTet = true ∧ Topo.isManifold tsTet = true ∧ Topo.isClosed tsTet = true := tsTet_topology
example : Topo.isOriented ts2 = true ∧ Topo.isManifold ts2 = true ∧ Topo.isClosed ts2 = false := by decide

-- the well-founded merge sort does not reduce in the kernel, so `decide` checks a sorted permutation instead
theorem ts2_edgeList : edgeList ts2 = [(0, 1), (0, 2), (1, 2), (1, 3), (2, 3)] :=
  Topo.mergeSort_lexLe_eq (by decide) (by decide)

theorem tsTet_edgeList : edgeList tsTet = [(0, 1), (0, 2), (0, 3), (1, 2), (1, 3), (2, 3)] :=
  Topo.mergeSort_lexLe_eq (by decide) (by decide)

theorem tsPillow_edgeList : edgeList tsPillow = [(0, 1), (0, 2), (1, 2)] :=
  Topo.mergeSort_lexLe_eq (by decide) (by decide)

theorem ts2_refined {K : Type} [Zero K] [Add K] [Mul K] [Div K] [NatCast K] (verts : List (V3 K))
    (h : verts.length = 4) :
    (refine1 verts ts2).2 = [(0, 4, 5), (1, 6, 4), (2, 5, 6), (4, 6, 5), (1, 7, 6), (3, 8, 7), (2, 6, 8), (7, 8, 6)] := by
  rw [refine1_tris, h, ts2_edgeList]; decide

/-- four rational points in the plane `z = 0`; the new vertices are the five edge midpoints -/
example : (refine1 (K := Rat) [⟨0, 0, 0⟩, ⟨1, 0, 0⟩, ⟨0, 1, 0⟩, ⟨1, 1, 0⟩] ts2).1 =
    [⟨0, 0, 0⟩, ⟨1, 0, 0⟩, ⟨0, 1, 0⟩, ⟨1, 1, 0⟩,
     ⟨1/2, 0, 0⟩, ⟨0, 1/2, 0⟩, ⟨1/2, 1/2, 0⟩, ⟨1, 1/2, 0⟩, ⟨1/2, 1, 0⟩] := by
  rw [refine_verts_eq, ts2_edgeList]
  simp only [List.map_cons, List.map_nil, vtxOf, midpoint, List.getD_cons_zero, List.getD_cons_succ, List.cons_append,
    List.nil_append, List.cons.injEq, true_and, and_true]
  refine ⟨?_, ?_, ?_, ?_, ?_⟩ <;> apply V3.ext' <;> (v3_flat; norm_num)

example (verts : List (V3 ℝ)) (h : verts.length = 4) :
    Measures.volumeSum (vtxOf (refine1 verts ts2).1) (refine1 verts ts2).2 = Measures.volumeSum (vtxOf verts) ts2 :=
  refine_volumeSum verts ts2 (by rw [h]; decide)

example {K : Type} [Zero K] [Add K] [Mul K] [Div K] [NatCast K] (verts : List (V3 K)) (h : verts.length = 4) :
    Topo.isClosed (refine1 verts tsTet).2 = true ∧ Topo.isManifold (refine1 verts tsTet).2 = true ∧
    Topo.isOriented (refine1 verts tsTet).2 = true ∧ Topo.euler (refine1 verts tsTet).2 = Topo.euler tsTet := by
  obtain ⟨hd, hr, hs⟩ := tsTet_hyps
  rw [← h] at hr
  rw [refine_isClosed verts _ hr, refine_isManifold_partial verts _ hr hd hs,
    refine_isOriented_partial verts _ hr hd hs, refine_euler_partial verts _ hr hd hs]
  exact ⟨tsTet_topology.2.2, tsTet_topology.2.1, tsTet_topology.1, rfl⟩

/-- **counterexample to the unrestricted statements**: the pillow satisfies `Distinct`, `InRange`, is closed,
    manifold and oriented; its refinement is closed but neither manifold nor oriented -/
example : Distinct tsPillow ∧ InRange 3 tsPillow ∧ ¬ FaceSimple tsPillow ∧
    Topo.isClosed tsPillow = true ∧ Topo.isManifold tsPillow = true ∧ Topo.isOriented tsPillow = true := by decide

theorem pillow_refined {K : Type} [Zero K] [Add K] [Mul K] [Div K] [NatCast K] (verts : List (V3 K))
    (h : verts.length = 3) :
    (refine1 verts tsPillow).2 = [(0, 3, 4), (1, 5, 3), (2, 4, 5), (3, 5, 4), (0, 4, 3), (2, 5, 4), (1, 3, 5), (4, 5, 3)] := by
  rw [refine1_tris, h, tsPillow_edgeList]; decide

example {K : Type} [Zero K] [Add K] [Mul K] [Div K] [NatCast K] (verts : List (V3 K)) (h : verts.length = 3) :
    Topo.isClosed (refine1 verts tsPillow).2 = true ∧ Topo.isManifold (refine1 verts tsPillow).2 = false ∧
    Topo.isOriented (refine1 verts tsPillow).2 = false := by
  rw [pillow_refined verts h]; decide

example {K : Type} [Zero K] [Add K] [Mul K] [Div K] [NatCast K] (verts : List (V3 K)) (h : verts.length = 3) :
    Topo.euler tsPillow = 2 ∧ Topo.euler (refine1 verts tsPillow).2 = 5 := by
  rw [pillow_refined verts h]
  simp only [Topo.euler, usedVerts_length]
  decide

/-- `rm_free_vertices_`: vertices 1 and 3 of five are unused -/
example : (RmFree.tri 5 [(0, 2, 4)]).2 = [(0, 1, 2)] ∧ (RmFree.tri 5 [(0, 2, 4)]).1.keep = [0, 2, 4] ∧
    (RmFree.tri 5 [(0, 2, 4)]).1.del = [1, 3] ∧ (RmFree.tri 5 [(0, 2, 4)]).1.changed = true := by decide
example : (RmFree.tri 4 ts2).2 = ts2 ∧ (RmFree.tri 4 ts2).1.changed = false := by decide
example : (RmFree.tet 6 [(5, 0, 3, 2)]).2 = [(3, 0, 2, 1)] ∧ (RmFree.tet 6 [(5, 0, 3, 2)]).1.keep = [0, 2, 3, 5] := by decide

end Examples

end LapyVerif.Props.C11
