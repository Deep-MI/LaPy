import LapyVerif.Lemmas.Balanced
import LapyVerif.Props.C09
import LapyVerif.Props.C13
/-
  C13 (continued) — `volume()` does not depend on the position of the origin.

  For a closed, consistently oriented triangle list every directed half-edge `a→b` occurs exactly as often as its
  reverse `b→a` (`dirKeys_arcBalanced`), hence the sum over the half-edges of any antisymmetric quantity vanishes
  (`Lemmas.balanced_sum_zero`, discrete Stokes).  Applied to `c · (v_a × v_b)` this gives the translation invariance
  of the divergence-theorem sum, applied to `v_a × v_b` the vanishing of the total vector area.
  No `Distinct` hypothesis is needed: the counting argument works on the stored keys themselves.  Only
  `halfEdgeCount_symm`, which says the balance once more in terms of `C09.halfEdgeCount`, takes it.
-/
namespace LapyVerif.Props.C13
open V3 Lemmas
open LapyVerif.Props.C09 (Distinct halfEdgeCount count_dirKeys)

/-- in a closed, oriented triangle list each directed half-edge occurs as often as its reverse -/
theorem dirKeys_arcBalanced (ts : List Tri) (hc : Topo.isClosed ts = true) (ho : Topo.isOriented ts = true) :
    ArcBalanced (Topo.dirKeys ts) :=
  fun a b => Topo.count_dirKeys_comm ts ho a b ((Topo.isClosed_iff ts).mp hc (a, b))

theorem halfEdgeCount_symm (ts : List Tri) (hd : Distinct ts) (hc : Topo.isClosed ts = true)
    (ho : Topo.isOriented ts = true) (a b : Nat) : halfEdgeCount ts a b = halfEdgeCount ts b a := by
  rw [← count_dirKeys ts hd, ← count_dirKeys ts hd]
  exact dirKeys_arcBalanced ts hc ho a b

theorem sum_dirKeys (ts : List Tri) (F : Nat → Nat → ℝ) :
    ((Topo.dirKeys ts).map fun h => F h.1 h.2).sum =
      (ts.map fun τ => F τ.1 τ.2.1 + F τ.2.1 τ.2.2 + F τ.2.2 τ.1).sum := by
  rw [Topo.dirKeys_eq, List.sum_map_flatMap]
  simp only [OrientLemmas.dirEdges, List.map_cons, List.map_nil, List.sum_cons, List.sum_nil, add_zero, add_assoc]

/-- **discrete Stokes for a closed oriented mesh**: the per-triangle circulation of an antisymmetric edge quantity
    sums to zero -/
theorem circulation_sum_zero (ts : List Tri) (hc : Topo.isClosed ts = true) (ho : Topo.isOriented ts = true)
    (F : Nat → Nat → ℝ) (hF : ∀ a b, F a b = - F b a) :
    (ts.map fun τ => F τ.1 τ.2.1 + F τ.2.1 τ.2.2 + F τ.2.2 τ.1).sum = 0 := by
  rw [← sum_dirKeys]
  exact balanced_sum_zero _ (dirKeys_arcBalanced ts hc ho) F hF

/-- `V3.cross_anticomm` under the name of the property it gives `v_a × v_b` in `circulation_sum_zero` -/
theorem cross_antisymm (a b : V3 ℝ) : cross a b = - cross b a := cross_anticomm a b

/-- **the total vector area of a closed oriented mesh is zero** (component in every direction `c`) -/
theorem vector_area_dot_zero (vtx : Nat → V3 ℝ) (ts : List Tri) (hc : Topo.isClosed ts = true)
    (ho : Topo.isOriented ts = true) (c : V3 ℝ) :
    (ts.map fun τ => dot c (cross (vtx τ.2.1 - vtx τ.1) (vtx τ.2.2 - vtx τ.1))).sum = 0 := by
  have h := circulation_sum_zero ts hc ho (fun a b => dot c (cross (vtx a) (vtx b)))
    (fun a b => by rw [cross_anticomm, dot_neg_right])
  rw [← h]
  exact congrArg List.sum (List.map_congr_left fun τ _ => by rw [cross_sub_sub, dot_add_right, dot_add_right])

/-- **the total vector area of a closed oriented mesh is zero** (as a vector) -/
theorem vector_area_zero (vtx : Nat → V3 ℝ) (ts : List Tri) (hc : Topo.isClosed ts = true)
    (ho : Topo.isOriented ts = true) :
    (ts.map fun τ => cross (vtx τ.2.1 - vtx τ.1) (vtx τ.2.2 - vtx τ.1)).sum = (0 : V3 ℝ) :=
  eq_zero_of_forall_dot fun c => by rw [dot_sum]; exact vector_area_dot_zero vtx ts hc ho c

/-- per triangle: moving the origin by `c` changes the signed-volume integrand by `c · (2 × area vector)` -/
theorem volume_integrand_translate (v0 v1 v2 c : V3 ℝ) :
    dot (v0 + c) (cross ((v1 + c) - (v0 + c)) ((v2 + c) - (v0 + c))) =
      dot v0 (cross (v1 - v0) (v2 - v0)) + dot c (cross (v1 - v0) (v2 - v0)) := by
  rw [V3.add_sub_add_right, V3.add_sub_add_right, dot_add_left]

/-- **translation invariance of the divergence-theorem volume** of a closed oriented mesh -/
theorem volume_translation_inv (vtx : Nat → V3 ℝ) (ts : List Tri) (hc : Topo.isClosed ts = true)
    (ho : Topo.isOriented ts = true) (c : V3 ℝ) :
    Measures.volumeSum (fun i => vtx i + c) ts = Measures.volumeSum vtx ts := by
  simp only [Measures.volumeSum, volume_integrand_translate, List.sum_map_add, vector_area_dot_zero vtx ts hc ho c,
    add_zero]

/-- `volume()` itself (with its guards) is translation invariant, for every triangle list -/
theorem volume_translation_inv' (vtx : Nat → V3 ℝ) (ts : List Tri) (c : V3 ℝ) :
    Measures.volume (fun i => vtx i + c) ts = Measures.volume vtx ts :=
  Measures.volume_congr rfl rfl fun hc ho => volume_translation_inv vtx ts hc ho c

/-! ### non-vacuity: the boundary of a tetrahedron -/

open LapyVerif.Props.C09 (tetra) in
example : Topo.isClosed tetra = true ∧ Topo.isOriented tetra = true := ⟨C09.isClosed_tetra, C09.isOriented_tetra⟩

open LapyVerif.Props.C09 (tetra) in
example (vtx : Nat → V3 ℝ) (c : V3 ℝ) :
    Measures.volume (fun i => vtx i + c) tetra = .ok (Measures.volumeSum vtx tetra) := by
  rw [volume_translation_inv', volume_closed vtx tetra C09.isClosed_tetra C09.isOriented_tetra]

/-- the hypothesis matters: for a single triangle (open) the sum does depend on the origin -/
example : Measures.volumeSum (fun i => vtx3 (⟨0, 0, 0⟩ : V3 ℝ) ⟨1, 0, 0⟩ ⟨0, 1, 0⟩ i + ⟨0, 0, 6⟩) [(0, 1, 2)] = 1 ∧
    Measures.volumeSum (vtx3 (⟨0, 0, 0⟩ : V3 ℝ) ⟨1, 0, 0⟩ ⟨0, 1, 0⟩) [(0, 1, 2)] = 0 := by
  constructor <;> (v3_flat [Measures.volumeSum, Measures.c, vtx3, List.map_cons, List.map_nil, List.sum_cons,
    List.sum_nil]; norm_num)

end LapyVerif.Props.C13
