import LapyVerif.Model.Mesh
/-
  Model of `lapy/tet_mesh.py`: `is_oriented`, `orient_`, `boundary_tria`, `has_free_vertices`, `construct_adj_sym`.
-/
namespace LapyVerif
namespace TetTopo
open V3

variable {K : Type} [Zero K] [Add K] [Sub K] [Mul K] [Div K] [Neg K] [NatCast K]
variable [LT K] [DecidableRel (α := K) (· < ·)]

/-- `vol = e3·(e0×e2)` with `e0 = v1-v0, e2 = v2-v0, e3 = v3-v0` (six times the signed volume) -/
def signedVol (vtx : Nat → V3 K) (τ : Tet) : K :=
  let v0 := vtx τ.1; let v1 := vtx τ.2.1; let v2 := vtx τ.2.2.1; let v3 := vtx τ.2.2.2
  dot (v3 - v0) (cross (v1 - v0) (v2 - v0))

/-- the four-way branch of `TetMesh.is_oriented` with its two `False` arms merged (only "all volumes positive" answers
    `True`); an empty mesh makes `np.max` raise, which the constructor excludes -/
def isOriented (vtx : Nat → V3 K) (ts : List Tet) : Bool :=
  let vols := ts.map (signedVol vtx)
  if vols.all (fun x => decide (x < 0)) then false          -- np.max(vol) < 0
  else if vols.all (fun x => decide (0 < x)) then true      -- np.min(vol) > 0
  else false

/-- `orient_`: swap columns 1,2 of exactly the negative tetrahedra; returns the count -/
def orient (vtx : Nat → V3 K) (ts : List Tet) : List Tet × Nat :=
  let neg := ts.map fun τ => decide (signedVol vtx τ < 0)
  let n := (neg.filter id).length
  if n == 0 then (ts, 0)
  else ((ts.zip neg).map (fun (τ, b) => if b then (τ.1, τ.2.2.1, τ.2.1, τ.2.2.2) else τ), n)

/-- sort three indices ascending -/
def sort3 (a b c : Nat) : Nat × Nat × Nat :=
  let lo := min a (min b c); let hi := max a (max b c)
  (lo, a + b + c - lo - hi, hi)

def lex3 (a b : Nat × Nat × Nat) : Bool :=
  a.1 < b.1 || (a.1 == b.1 && (a.2.1 < b.2.1 || (a.2.1 == b.2.1 && a.2.2 ≤ b.2.2)))

/-- `allt`: the four faces `[3,1,2],[2,0,3],[1,3,0],[0,2,1]` stacked block-wise, each with the index of its tetrahedron -/
def allFaces (ts : List Tet) : List (Tri × Nat) :=
  let f : (Tet → Tri) → List (Tri × Nat) := fun pick => (ts.zipIdx).map fun (τ, k) => (pick τ, k)
  f (fun τ => (τ.2.2.2, τ.2.1, τ.2.2.1)) ++ f (fun τ => (τ.2.2.1, τ.1, τ.2.2.2)) ++
  f (fun τ => (τ.2.1, τ.2.2.2, τ.1)) ++ f (fun τ => (τ.1, τ.2.2.1, τ.2.1))

/-- `boundary_tria`: faces whose sorted triple occurs once, in the lexicographic order of the sorted triples
    (`np.unique(axis=0)`), each with its owning tetrahedron -/
def boundaryFaces (ts : List Tet) : List (Tri × Nat) :=
  let all := allFaces ts
  let keyed := all.map fun (f, k) => (sort3 f.1 f.2.1 f.2.2, f, k)
  let once := keyed.filter fun e => (keyed.filter fun e' => e'.1 == e.1).length == 1
  (once.mergeSort fun a b => lex3 a.1 b.1).map fun e => (e.2.1, e.2.2)

/-- keys of `TetMesh.construct_adj_sym` in the code's order -/
def symKeys (ts : List Tet) : List (Nat × Nat) :=
  ts.flatMap fun (t1, t2, t3, t4) =>
    [(t1, t2), (t2, t1), (t2, t3), (t3, t2), (t3, t1), (t1, t3), (t1, t4), (t2, t4), (t3, t4), (t4, t1), (t4, t2), (t4, t3)]

def usedVerts (ts : List Tet) : List Nat := (ts.flatMap fun (a, b, c, d) => [a, b, c, d]).eraseDups

def hasFreeVertices (nv : Nat) (ts : List Tet) : Bool := nv != (usedVerts ts).length

end TetTopo
end LapyVerif
