import Mathlib.Tactic.Ring
import Mathlib.Tactic.FieldSimp
import LapyVerif.Lemmas.BridgeTac
import LapyVerif.Lemmas.LevelLemmas
import LapyVerif.Lemmas.LevelBfs
/-
  C16 — `level_length` and `level_path`.

  Model: `Model/Level.lean`.  "Level not attained" is `f v ≠ level` for the corners involved; then `¬ level < f v`
  is `f v < level`, and the raw flag patterns of `isolated` become statements about the two sides of the level.

  A bold name in a docstring is the label of a clause of the property, which several theorems may share and which need
  not be the name of the declaration it stands on (`interp_spec` is `interp_first`, `interp_last`, `interp_mid`).  In the
  names, `resample1…` and `resample_length` are about one pass, `resample_endpoints` about the three passes.  Sections
  1–3 are about real numbers and points; they apply to a member `c` of `crossed` through `crossed_alone` and
  `crossPoint_eq`.
  `LevelLemmas.orderOf` is written with its namespace because the bare name is Mathlib's `orderOf`.
-/
namespace LapyVerif.Props.C16
-- `V3` and `LevelBfs` are opened only for the sections that use them: every open namespace is searched again by each
-- index proof of the `xp[j]` in the statements of section 6
open Level LevelLemmas

/-! ## 1. the isolated corner -/

/-- `v` is on the other side of the level than `a` and `b` -/
def Alone (level v a b : ℝ) : Prop := (level < v ∧ a < level ∧ b < level) ∨ (v < level ∧ level < a ∧ level < b)

theorem not_lt_iff {level x : ℝ} (h : x ≠ level) : ¬ level < x ↔ x < level := not_lt.trans h.le_iff_lt

/-- **`isolated_spec`** (the six sign patterns): with no corner on the level, `isolated = some s` iff corner `s` is
    alone on its side -/
theorem isolated_spec {f0 f1 f2 level : ℝ} (h0 : f0 ≠ level) (h1 : f1 ≠ level) (h2 : f2 ≠ level) (s : Nat) :
    isolated f0 f1 f2 level = some s ↔
      (s = 0 ∧ Alone level f0 f1 f2) ∨ (s = 1 ∧ Alone level f1 f0 f2) ∨ (s = 2 ∧ Alone level f2 f0 f1) := by
  rw [isolated_eq_some]
  simp only [Alone, not_lt_iff h0, not_lt_iff h1, not_lt_iff h2]

/-- `isolated = none` iff the three corners are on the same side: the level set misses the triangle -/
theorem isolated_none_spec {f0 f1 f2 level : ℝ} (h0 : f0 ≠ level) (h1 : f1 ≠ level) (h2 : f2 ≠ level) :
    isolated f0 f1 f2 level = none ↔ (level < f0 ∧ level < f1 ∧ level < f2) ∨ (f0 < level ∧ f1 < level ∧ f2 < level) := by
  rw [isolated_eq_none]
  simp only [not_lt_iff h0, not_lt_iff h1, not_lt_iff h2]

/-- without any hypothesis: the raw flag patterns (`level < f_i`), as the code computes them
    (`LevelLemmas.isolated_eq_some` under the name of the clause) -/
theorem isolated_spec_raw (f0 f1 f2 level : ℝ) (s : Nat) :
    isolated f0 f1 f2 level = some s ↔
      (s = 0 ∧ ((level < f0 ∧ ¬ level < f1 ∧ ¬ level < f2) ∨ (¬ level < f0 ∧ level < f1 ∧ level < f2))) ∨
      (s = 1 ∧ ((level < f1 ∧ ¬ level < f0 ∧ ¬ level < f2) ∨ (¬ level < f1 ∧ level < f0 ∧ level < f2))) ∨
      (s = 2 ∧ ((level < f2 ∧ ¬ level < f0 ∧ ¬ level < f1) ∨ (¬ level < f2 ∧ level < f0 ∧ level < f1))) :=
  isolated_eq_some f0 f1 f2 level s

/-! ## 2. crossing points -/

/-- **`crossPoint_on_level`**: the linear interpolant along the edge takes the value `level` at the parameter `x`.
    A statement about the parameter only; `crossPoint_eq` says that `crossPoint` is the point with this parameter. -/
theorem crossPoint_on_level {fa fb level : ℝ} (h : fa ≠ fb) :
    (1 - (level - fa) / (fb - fa)) * fa + (level - fa) / (fb - fa) * fb = level := by
  have : fb - fa ≠ 0 := sub_ne_zero.2 (Ne.symm h)
  field_simp
  ring

theorem crossPoint_param {fa fb level : ℝ} (h : (fa < level ∧ level < fb) ∨ (fb < level ∧ level < fa)) :
    0 < (level - fa) / (fb - fa) ∧ (level - fa) / (fb - fa) < 1 := by
  rcases h with ⟨h1, h2⟩ | ⟨h1, h2⟩
  · have hd : 0 < fb - fa := sub_pos.2 (h1.trans h2)
    exact ⟨div_pos (sub_pos.2 h1) hd, (div_lt_one hd).2 (sub_lt_sub_right h2 fa)⟩
  · have hd : fb - fa < 0 := sub_neg.2 (h1.trans h2)
    exact ⟨div_pos_of_neg_of_neg (sub_neg.2 h2) hd, (div_lt_one_of_neg hd).2 (sub_lt_sub_right h1 fa)⟩

section
open V3

/-- the point itself: `crossPoint = (1−x) v_a + x v_b` (`LevelLemmas.crossPoint_real` under the name of the clause) -/
theorem crossPoint_eq (vtx : Nat → V3 ℝ) (f : Nat → ℝ) (level : ℝ) (a b : Nat) :
    crossPoint vtx f level a b
      = smul (1 - (level - f a) / (f b - f a)) (vtx a) + smul ((level - f a) / (f b - f a)) (vtx b) :=
  crossPoint_real vtx f level a b

/-! ## 3. the segment of a crossed triangle is the level set of the linear interpolant -/

def bary (l0 l1 l2 : ℝ) (v0 v1 v2 : V3 ℝ) : V3 ℝ := smul l0 v0 + smul l1 v1 + smul l2 v2
def lerp (s : ℝ) (p q : V3 ℝ) : V3 ℝ := smul (1 - s) p + smul s q

/-- a point of the segment between a point of the edge `v0 v1` and a point of the edge `v0 v2`, in barycentric
    coordinates: everything about the segment of a crossed triangle is read off from this -/
theorem lerp_lerp (s x1 x2 : ℝ) (v0 v1 v2 : V3 ℝ) :
    lerp s (lerp x1 v0 v1) (lerp x2 v0 v2) = bary (1 - (1 - s) * x1 - s * x2) ((1 - s) * x1) (s * x2) v0 v1 v2 := by
  unfold lerp bary
  apply V3.ext' <;> simp only [V3.add_x, V3.add_y, V3.add_z, V3.smul_x, V3.smul_y, V3.smul_z] <;> ring

theorem alone_params {f0 f1 f2 level : ℝ} (h : Alone level f0 f1 f2) :
    (0 < (level - f0) / (f1 - f0) ∧ (level - f0) / (f1 - f0) < 1) ∧
    (0 < (level - f0) / (f2 - f0) ∧ (level - f0) / (f2 - f0) < 1) ∧
    (f1 - f0) * ((level - f0) / (f1 - f0)) = level - f0 ∧ (f2 - f0) * ((level - f0) / (f2 - f0)) = level - f0 := by
  rcases h with ⟨a, b, c⟩ | ⟨a, b, c⟩
  · exact ⟨crossPoint_param (Or.inr ⟨b, a⟩), crossPoint_param (Or.inr ⟨c, a⟩),
      mul_div_cancel₀ _ (sub_ne_zero.2 (b.trans a).ne), mul_div_cancel₀ _ (sub_ne_zero.2 (c.trans a).ne)⟩
  · exact ⟨crossPoint_param (Or.inl ⟨a, b⟩), crossPoint_param (Or.inl ⟨a, c⟩),
      mul_div_cancel₀ _ (sub_ne_zero.2 (a.trans b).ne'), mul_div_cancel₀ _ (sub_ne_zero.2 (a.trans c).ne')⟩

/-- **`segment_is_levelset`** (⊆): every point of the segment between the two crossing points is a point of the
    triangle at which the linear interpolant equals `level` -/
theorem segment_is_levelset {f0 f1 f2 level : ℝ} (v0 v1 v2 : V3 ℝ) (h : Alone level f0 f1 f2) {s : ℝ}
    (hs0 : 0 ≤ s) (hs1 : s ≤ 1) :
    ∃ l0 l1 l2 : ℝ, 0 ≤ l0 ∧ 0 ≤ l1 ∧ 0 ≤ l2 ∧ l0 + l1 + l2 = 1 ∧
      lerp s (smul (1 - (level - f0) / (f1 - f0)) v0 + smul ((level - f0) / (f1 - f0)) v1)
             (smul (1 - (level - f0) / (f2 - f0)) v0 + smul ((level - f0) / (f2 - f0)) v2) = bary l0 l1 l2 v0 v1 v2 ∧
      l0 * f0 + l1 * f1 + l2 * f2 = level := by
  obtain ⟨⟨p1, q1⟩, ⟨p2, q2⟩, e1, e2⟩ := alone_params h
  have hs1' : 0 ≤ 1 - s := sub_nonneg.2 hs1
  refine ⟨_, _, _, ?_, mul_nonneg hs1' p1.le, mul_nonneg hs0 p2.le, by ring,
    lerp_lerp s ((level - f0) / (f1 - f0)) ((level - f0) / (f2 - f0)) v0 v1 v2, ?_⟩
  · have : 1 - (1 - s) * ((level - f0) / (f1 - f0)) - s * ((level - f0) / (f2 - f0))
        = (1 - s) * (1 - (level - f0) / (f1 - f0)) + s * (1 - (level - f0) / (f2 - f0)) := by ring
    rw [this]
    exact add_nonneg (mul_nonneg hs1' (sub_nonneg.2 q1.le)) (mul_nonneg hs0 (sub_nonneg.2 q2.le))
  · linear_combination (1 - s) * e1 + s * e2

/-- clause **`segment_is_levelset`** (⊇): conversely every point of the triangle (barycentric coordinates `≥ 0`, sum 1)
    at which the interpolant equals `level` lies on that segment (`0 ≤ l0` is listed with the other two but not needed) -/
theorem levelset_in_segment {f0 f1 f2 level : ℝ} (v0 v1 v2 : V3 ℝ) (h : Alone level f0 f1 f2) {l0 l1 l2 : ℝ}
    (_h0 : 0 ≤ l0) (h1 : 0 ≤ l1) (h2 : 0 ≤ l2) (hsum : l0 + l1 + l2 = 1) (hval : l0 * f0 + l1 * f1 + l2 * f2 = level) :
    ∃ s : ℝ, 0 ≤ s ∧ s ≤ 1 ∧
      bary l0 l1 l2 v0 v1 v2 =
        lerp s (smul (1 - (level - f0) / (f1 - f0)) v0 + smul ((level - f0) / (f1 - f0)) v1)
               (smul (1 - (level - f0) / (f2 - f0)) v0 + smul ((level - f0) / (f2 - f0)) v2) := by
  obtain ⟨⟨p1, _⟩, ⟨p2, _⟩, e1, e2⟩ := alone_params h
  have hL : level - f0 ≠ 0 := h.elim (fun a => sub_ne_zero.2 a.1.ne) fun a => sub_ne_zero.2 a.1.ne'
  generalize (level - f0) / (f1 - f0) = x1 at *
  generalize (level - f0) / (f2 - f0) = x2 at *
  obtain ⟨s, c2⟩ : ∃ s, s * x2 = l2 := ⟨l2 / x2, div_mul_cancel₀ _ p2.ne'⟩
  -- then also `(1 − s) x1 = l1`, because `l1 (f1−f0) + l2 (f2−f0) = level − f0 = (f_i−f0) x_i`
  have c1 : (1 - s) * x1 = l1 :=
    mul_left_cancel₀ (left_ne_zero_of_mul (ne_of_eq_of_ne e1 hL))
      (by linear_combination (1 - s) * e1 + s * e2 - (f2 - f0) * c2 - hval + f0 * hsum)
  refine ⟨s, nonneg_of_mul_nonneg_left (c2 ▸ h2) p2, sub_nonneg.1 (nonneg_of_mul_nonneg_left (c1 ▸ h1) p1), ?_⟩
  refine ((lerp_lerp s x1 x2 v0 v1 v2).trans ?_).symm
  rw [c1, c2, show 1 - l1 - l2 = l0 by linear_combination -hsum]

end

/-! ## 4. `level_length` -/

/-- explicit description of the crossed triangles: index, isolated corner first, then the other two in cyclic order -/
theorem mem_crossed_iff {ts : List Tri} {f : Nat → ℝ} {level : ℝ} {k g0 g1 g2 : Nat} :
    (k, g0, g1, g2) ∈ crossed ts f level ↔
      ∃ τ s, ts[k]? = some τ ∧ isolated (f τ.1) (f τ.2.1) (f τ.2.2) level = some s ∧
        ((s = 0 ∧ (g0, g1, g2) = (τ.1, τ.2.1, τ.2.2)) ∨ (s = 1 ∧ (g0, g1, g2) = (τ.2.1, τ.2.2, τ.1)) ∨
         (s = 2 ∧ (g0, g1, g2) = (τ.2.2, τ.1, τ.2.1))) := by
  rw [mem_crossed]
  refine exists₂_congr fun τ s => and_congr_right fun _ => and_congr_right fun hs => ?_
  obtain rfl | rfl | rfl : s = 0 ∨ s = 1 ∨ s = 2 := by have := isolated_lt_three hs; omega
  all_goals simp [rot_zero, rot_one, rot_two]

/-- in a crossed triangle (level not attained at its corners) the first corner is alone on its side -/
theorem crossed_alone {ts : List Tri} {f : Nat → ℝ} {level : ℝ} {c : Nat × Nat × Nat × Nat} (h : c ∈ crossed ts f level)
    (h1 : f c.2.2.1 ≠ level) (h2 : f c.2.2.2 ≠ level) (h0 : f c.2.1 ≠ level) :
    Alone level (f c.2.1) (f c.2.2.1) (f c.2.2.2) := by
  have := crossed_sep h
  simp only [not_lt_iff h0, not_lt_iff h1, not_lt_iff h2] at this
  exact this

/-- the contribution of one triangle to `level_length`: the length of its segment (by `crossed_alone`, `crossPoint_eq`,
    `segment_is_levelset` and `levelset_in_segment` its part of the level set of the piecewise-linear interpolant), 0 if
    it is not crossed -/
noncomputable def triLevelLen (vtx : Nat → V3 ℝ) (f : Nat → ℝ) (level : ℝ) (τ : Tri) : ℝ :=
  match isolated (f τ.1) (f τ.2.1) (f τ.2.2) level with
  | some s => Level.dist (crossPoint vtx f level (rot τ s).1 (rot τ s).2.1) (crossPoint vtx f level (rot τ s).1 (rot τ s).2.2)
  | none => 0

/-- **`level_length_spec`**: `level_length` is the sum over the crossed triangles of the length of the segment
    between the two crossing points (the definition of `levelLength`, with projections in place of the pattern) -/
theorem level_length_spec (vtx : Nat → V3 ℝ) (ts : List Tri) (f : Nat → ℝ) (level : ℝ) :
    levelLength vtx ts f level = ((crossed ts f level).map fun c =>
      Level.dist (crossPoint vtx f level c.2.1 c.2.2.1) (crossPoint vtx f level c.2.1 c.2.2.2)).sum := rfl

/-- the same as a sum over ALL triangles (uncrossed ones contribute 0) -/
theorem level_length_sum_tri (vtx : Nat → V3 ℝ) (ts : List Tri) (f : Nat → ℝ) (level : ℝ) :
    levelLength vtx ts f level = (ts.map (triLevelLen vtx f level)).sum := by
  rw [level_length_spec, crossed_eq]
  -- the start index of `zipIdx`, generalised for the induction
  generalize 0 = k0
  induction ts generalizing k0 with
  | nil => rfl
  | cons τ ts ih =>
    rw [List.zipIdx_cons, List.filterMap_cons, List.map_cons, List.sum_cons, ← ih (k0 + 1)]
    unfold triLevelLen
    cases isolated (f τ.1) (f τ.2.1) (f τ.2.2) level with
    | none => simp
    | some s => simp

/-- for several levels the method maps over them: one result per level (nothing more is said; entry by entry the
    result is `levelLength` by the definition of `map`) -/
theorem level_length_levels (vtx : Nat → V3 ℝ) (ts : List Tri) (f : Nat → ℝ) (levels : List ℝ) :
    (levels.map (levelLength vtx ts f)).length = levels.length := by simp

/-! ## 5. `pathData` -/

/-- **`pathData_points`**: the points are the crossing points of the stored edges; the stored edges are exactly the
    sorted crossed mesh edges `{g0,g1}`, `{g0,g2}` of the crossed triangles, without duplicates and in lexicographic
    order -/
theorem pathData_points (vtx : Nat → V3 ℝ) (ts : List Tri) (f : Nat → ℝ) (level : ℝ) :
    (pathData vtx ts f level).pts = (pathData vtx ts f level).edges.map (fun e => crossPoint vtx f level e.1 e.2) ∧
    (∀ e, e ∈ (pathData vtx ts f level).edges ↔
      ∃ c ∈ crossed ts f level, e = sortPair c.2.1 c.2.2.1 ∨ e = sortPair c.2.1 c.2.2.2) ∧
    (pathData vtx ts f level).edges.Nodup ∧
    (pathData vtx ts f level).edges.Pairwise (fun a b => Topo.lexLe a b = true) := by
  refine ⟨rfl, fun e => ?_, ?_, ?_⟩
  · rw [pathData_edges]; exact mem_edgesOf
  · rw [pathData_edges]; exact edgesOf_nodup _
  · rw [pathData_edges]; exact Topo.pairwise_sortLex _

theorem pathData_edge_sorted (vtx : Nat → V3 ℝ) (ts : List Tri) (f : Nat → ℝ) (level : ℝ) {e : Nat × Nat}
    (he : e ∈ (pathData vtx ts f level).edges) : e.1 ≤ e.2 ∧ f e.1 ≠ f e.2 := by
  have key : ∀ a b, f a ≠ f b → (sortPair a b).1 ≤ (sortPair a b).2 ∧ f (sortPair a b).1 ≠ f (sortPair a b).2 := by
    intro a b hab
    refine ⟨(sortPair_cases a b).1, ?_⟩
    rcases (sortPair_cases a b).2 with e | e <;> rw [e]
    exacts [hab, hab.symm]
  rw [pathData_edges, mem_edgesOf] at he
  obtain ⟨c, hc, rfl | rfl⟩ := he
  · exact key _ _ (crossed_ne hc).1
  · exact key _ _ (crossed_ne hc).2

/-- **segments**: one per crossed triangle, in the same order; its two indices are valid and point to the sorted
    edges `{g0,g1}` and `{g0,g2}` of that triangle, so the segment joins the crossing points of those two edges.  The
    index functions are quantified so that the statement speaks of the model alone; `LevelLemmas.pathData_segs` has them. -/
theorem pathData_segs_spec (vtx : Nat → V3 ℝ) (ts : List Tri) (f : Nat → ℝ) (level : ℝ) :
    ∃ ia ib : Nat × Nat × Nat × Nat → Nat,
      (pathData vtx ts f level).segs = (crossed ts f level).map (fun c => (c.1, ia c, ib c)) ∧
      ∀ c ∈ crossed ts f level,
        (∃ h : ia c < (pathData vtx ts f level).edges.length,
          (pathData vtx ts f level).edges[ia c] = sortPair c.2.1 c.2.2.1) ∧
        (∃ h : ib c < (pathData vtx ts f level).edges.length,
          (pathData vtx ts f level).edges[ib c] = sortPair c.2.1 c.2.2.2) ∧
        (pathData vtx ts f level).pts.getD (ia c) ⟨0, 0, 0⟩ = crossPoint vtx f level c.2.1 c.2.2.1 ∧
        (pathData vtx ts f level).pts.getD (ib c) ⟨0, 0, 0⟩ = crossPoint vtx f level c.2.1 c.2.2.2 := by
  refine ⟨fun c => idxIn (edgesOf (crossed ts f level)) (edge1 c), fun c => idxIn (edgesOf (crossed ts f level)) (edge2 c),
    pathData_segs vtx ts f level, ?_⟩
  intro c hc
  have m1 : edge1 c ∈ edgesOf (crossed ts f level) := mem_edgesOf.2 ⟨c, hc, Or.inl rfl⟩
  have m2 : edge2 c ∈ edgesOf (crossed ts f level) := mem_edgesOf.2 ⟨c, hc, Or.inr rfl⟩
  refine ⟨idxIn_spec m1, idxIn_spec m2, ?_, ?_⟩
  · rw [pathData_pts, pathData_edges, getD_map_idxIn _ _ m1]
    exact crossPoint_sortPair vtx f level _ _ (crossed_ne hc).1
  · rw [pathData_pts, pathData_edges, getD_map_idxIn _ _ m2]
    exact crossPoint_sortPair vtx f level _ _ (crossed_ne hc).2

/-- **`path_length_eq`**: the length accumulated by `level_path` is `level_length` (no hypothesis needed) -/
theorem path_length_eq (vtx : Nat → V3 ℝ) (ts : List Tri) (f : Nat → ℝ) (level : ℝ) :
    (pathData vtx ts f level).length = levelLength vtx ts f level := by
  obtain ⟨ia, ib, hsegs, hspec⟩ := pathData_segs_spec vtx ts f level
  rw [pathData_length, hsegs, level_length_spec, List.map_map]
  apply congrArg
  apply List.map_congr_left
  intro c hc
  obtain ⟨_, _, h1, h2⟩ := hspec c hc
  simp only [Function.comp]
  rw [h1, h2]

/-! ## 6. `np.interp` and the arc-length resampling -/

/-- clause **`interp_spec`** (first point) -/
theorem interp_first (x0 f0 : ℝ) (xs fs : List ℝ) : interp (x0 :: xs) (f0 :: fs) x0 = f0 := by
  rw [interp_cons, if_pos (lt_irrefl x0)]

/-- clause **`interp_spec`** (last point), strictly increasing abscissae -/
theorem interp_last {xp fp : List ℝ} (hlen : xp.length = fp.length) (h2 : 2 ≤ xp.length) (hs : xp.Pairwise (· < ·))
    {xl : ℝ} (hl : xp.getLast? = some xl) : fp.getLast? = some (interp xp fp xl) := by
  have hall := le_getLast_of_pairwise (hs.imp le_of_lt) hl
  match xp, h2, hs, hall with
  | x0 :: x1 :: xs, _, hs, hall =>
    exact interp_right hlen (by simp) rfl
      ((List.rel_of_pairwise_cons hs (List.mem_cons_self ..)).trans_le (hall x1 (by simp))) hall

/-- clause **`interp_spec`** (between two abscissae): linear interpolation on `[xp[j], xp[j+1])` -/
theorem interp_mid {xp fp : List ℝ} (hlen : xp.length = fp.length) (hs : xp.Pairwise (· < ·)) (j : Nat)
    (hj : j + 1 < xp.length) {x : ℝ} (h1 : xp[j] ≤ x) (h2 : x < xp[j + 1]) :
    interp xp fp x =
      ((fp[j + 1]'(hlen ▸ hj) - fp[j]'(by omega)) / (xp[j + 1] - xp[j])) * (x - xp[j]) + fp[j]'(by omega) := by
  have hj0 : j < xp.length := Nat.lt_of_succ_lt hj
  obtain ⟨x0, xs, rfl⟩ := List.exists_cons_of_length_pos (Nat.zero_lt_of_lt hj0)
  obtain ⟨f0, fs, rfl⟩ := List.exists_cons_of_length_pos (hlen ▸ Nat.zero_lt_of_lt hj0)
  by_cases hx : x0 < x
  · exact interp_at (hs.imp le_of_lt) rfl hx j (List.getElem?_eq_getElem hj0) (List.getElem?_eq_getElem hj)
      (List.getElem?_eq_getElem _) (List.getElem?_eq_getElem _) h1 h2
  · -- `x ≤ xp[0] ≤ xp[j] ≤ x`: then `j = 0` as `xp` is strictly increasing, and the interpolant at `xp[0]` is `fp[0]`
    cases j with
    | succ j => exact absurd ((List.rel_of_pairwise_cons hs (List.getElem_mem _)).trans_le h1) hx
    | zero =>
      obtain rfl : x = x0 := le_antisymm (not_lt.1 hx) h1
      rw [interp_cons, if_pos hx]
      show f0 = _ * (x - x) + f0
      rw [sub_self, mul_zero, zero_add]

/-- **`resample_length`**, one pass (for the three passes it is the last conjunct of `resample_endpoints`) -/
theorem resample_length (path : List (V3 ℝ)) (n : Nat) : (resample1 path n).length = n := by
  rw [resample1_eq, List.length_map, samples_length]

/-- **`resample_endpoints`** (one pass): first and last point are unchanged -/
theorem resample1_endpoints {path : List (V3 ℝ)} {n : Nat} (h2 : 2 ≤ path.length) (hpos : 0 < totalLen path) (hn : 2 ≤ n) :
    (resample1 path n).head? = path.head? ∧ (resample1 path n).getLast? = path.getLast? := by
  obtain ⟨p, rest, rfl⟩ := List.exists_cons_of_length_pos (Nat.lt_of_lt_of_le Nat.zero_lt_two h2)
  have hq := List.getLast?_eq_some_getLast (List.cons_ne_nil p rest)
  rw [resample1_eq, List.head?_map, List.getLast?_map, samples_head hn, samples_last hn, hq]
  simp only [Option.map_some, List.head?_cons]
  rw [pointAt_zero, pointAt_total h2 hpos hq]
  exact ⟨rfl, rfl⟩

/-- the samples are equally spaced in arc length: the `i`-th output point is the point at arc length
    `i · total/(n−1)` -/
theorem resample1_equispaced {path : List (V3 ℝ)} {n : Nat} (hn : 2 ≤ n) (i : Nat) (hi : i < (resample1 path n).length) :
    (resample1 path n)[i] = pointAt path ((i : ℝ) * (totalLen path / ((n - 1 : Nat) : ℝ))) := by
  have hi' : i < (samples path n).length := by rw [resample_length] at hi; rw [samples_length]; exact hi
  have : (resample1 path n)[i] = pointAt path ((samples path n)[i]) := by
    simp only [resample1_eq, List.getElem_map]
  rw [this, samples_getElem hn i hi']

/-- … and that point lies on the segment of the polyline that contains this arc length -/
theorem pointAt_on_segment (path : List (V3 ℝ)) (j : Nat) (hj : j + 1 < path.length) {s : ℝ}
    (h1 : (arcLen path)[j]'(by rw [arcLen_length]; omega) ≤ s) (h2 : s < (arcLen path)[j + 1]'(by rw [arcLen_length]; omega))
    (hs : 0 < s) :
    pointAt path s = lerp ((s - (arcLen path)[j]'(by rw [arcLen_length]; omega)) /
        ((arcLen path)[j + 1]'(by rw [arcLen_length]; omega) - (arcLen path)[j]'(by rw [arcLen_length]; omega)))
      path[j] path[j + 1] := by
  have key : ∀ g : V3 ℝ → ℝ, interp (arcLen path) (path.map g) s = _ := fun g =>
    interp_at (arcLen_mono path).1 (arcLen_head path) hs j (List.getElem?_eq_getElem _) (List.getElem?_eq_getElem _)
      (by rw [List.getElem?_map, List.getElem?_eq_getElem (Nat.lt_of_succ_lt hj)]; rfl)
      (by rw [List.getElem?_map, List.getElem?_eq_getElem hj]; rfl) h1 h2
  unfold pointAt lerp
  rw [key, key, key]
  apply V3.ext' <;> simp only [V3.add_x, V3.add_y, V3.add_z, V3.smul_x, V3.smul_y, V3.smul_z] <;> ring

/-- `resample1_endpoints` for an open curve with different end points, which supplies its hypotheses
    (`totalLen_pos_of_ne`): the form that can be iterated -/
theorem resample1_pass {path : List (V3 ℝ)} {p q : V3 ℝ} {n : Nat} (hp : path.head? = some p)
    (hq : path.getLast? = some q) (hne : p ≠ q) (hn : 2 ≤ n) :
    (resample1 path n).head? = some p ∧ (resample1 path n).getLast? = some q := by
  have h2 : 2 ≤ path.length := by
    match path, hp, hq with
    | [a], hp, hq => simp at hp hq; exact absurd (hp.symm.trans hq) hne
    | a :: b :: r, _, _ => simp
  have := resample1_endpoints h2 (totalLen_pos_of_ne hp hq hne) hn
  rw [this.1, this.2]; exact ⟨hp, hq⟩

/-- **`resample_endpoints`** (the three passes of `__iterative_resample_polygon`): an open curve with different end
    points keeps them, and has `n` points -/
theorem resample_endpoints {path : List (V3 ℝ)} {p q : V3 ℝ} {n : Nat} (hp : path.head? = some p)
    (hq : path.getLast? = some q) (hne : p ≠ q) (hn : 2 ≤ n) :
    (resample path n).head? = some p ∧ (resample path n).getLast? = some q ∧ (resample path n).length = n := by
  unfold resample
  have h1 := resample1_pass hp hq hne hn
  have h2 := resample1_pass h1.1 h1.2 hne hn
  have h3 := resample1_pass h2.1 h2.2 hne hn
  exact ⟨h3.1, h3.2, resample_length _ n⟩

/-! ## 7. `level_path`: result, removal of near-duplicate points, errors -/

theorem eps_real : (Level.one / ((1000000 : Nat) : ℝ)) = 1 / 1000000 := by simp

/-- the ordered point list before the removal of near-duplicates -/
noncomputable def orderedPoints (vtx : Nat → V3 ℝ) (ts : List Tri) (f : Nat → ℝ) (level : ℝ) : List (V3 ℝ) :=
  (LevelLemmas.orderOf (segEdges (pathData vtx ts f level).segs)).map fun i => (pathData vtx ts f level).pts.getD i ⟨0, 0, 0⟩

/-- the triangle reported for every consecutive pair of ordered points -/
noncomputable def orderedTrias (vtx : Nat → V3 ℝ) (ts : List Tri) (f : Nat → ℝ) (level : ℝ) : List Nat :=
  triasOf (pathData vtx ts f level).segs (LevelLemmas.orderOf (segEdges (pathData vtx ts f level).segs))

theorem orderOf_length (es : List (Nat × Nat)) : (LevelLemmas.orderOf es).length = nNodes es := by
  simp [LevelLemmas.orderOf]

/-- `level_path` in the named pieces: the three errors, else the ordered points with the near-duplicates removed,
    `level_length`, and the triangles of the kept pairs -/
theorem levelPath_cases (vtx : Nat → V3 ℝ) (ts : List Tri) (f : Nat → ℝ) (level : ℝ) :
    levelPath vtx ts f level =
      if segEdges (pathData vtx ts f level).segs = [] then .valueError
      else if (endsOf (segEdges (pathData vtx ts f level).segs)).length ≠ 2 then .valueError
      else if (bfsDist (segEdges (pathData vtx ts f level).segs)).any (·.isNone) = true then .valueError
      else .ok (keepSpec (1 / 1000000) (orderedPoints vtx ts f level)) (levelLength vtx ts f level)
        ((((orderedTrias vtx ts f level).zip (flagsOf (1 / 1000000) (orderedPoints vtx ts f level))).filter (·.2)).map (·.1)) := by
  rw [levelPath_eq]
  simp only [List.isEmpty_iff, bne_iff_ne, eps_real, kept_eq, path_length_eq]
  rfl

/-- **`level_path` raises** exactly when there is no segment, or the segment graph does not have exactly two end
    points (vertices of degree one), or some point is not reachable from the first end point -/
theorem levelPath_valueError_iff (vtx : Nat → V3 ℝ) (ts : List Tri) (f : Nat → ℝ) (level : ℝ) :
    levelPath vtx ts f level = .valueError ↔
      segEdges (pathData vtx ts f level).segs = [] ∨
      (endsOf (segEdges (pathData vtx ts f level).segs)).length ≠ 2 ∨
      (bfsDist (segEdges (pathData vtx ts f level).segs)).any (·.isNone) = true := by
  rw [levelPath_cases]
  split_ifs <;> simp [*]

/-- **`merge_eps`**: what an `.ok` result of `level_path` consists of.  `kept` is obtained from the ordered points by
    dropping exactly the points whose squared distance to their successor is `≤ 1/1000000` (the last point is always
    kept: `keepSpec`), so it is a sublist with the same last point; the length is `level_length`; one triangle index
    is returned per kept point other than the last (`tri.length + 1 = kept.length`), namely those of the pairs whose
    first point is kept.  The last conjunct records that the segment graph had exactly two end points. -/
theorem merge_eps {vtx : Nat → V3 ℝ} {ts : List Tri} {f : Nat → ℝ} {level : ℝ} {kept : List (V3 ℝ)} {L : ℝ}
    {tri : List Nat} (h : levelPath vtx ts f level = .ok kept L tri) :
    L = levelLength vtx ts f level ∧
    kept = keepSpec (1 / 1000000) (orderedPoints vtx ts f level) ∧
    kept.Sublist (orderedPoints vtx ts f level) ∧
    kept.getLast? = (orderedPoints vtx ts f level).getLast? ∧
    tri = (((orderedTrias vtx ts f level).zip (flagsOf (1 / 1000000) (orderedPoints vtx ts f level))).filter (·.2)).map (·.1) ∧
    tri.length + 1 = kept.length ∧
    (endsOf (segEdges (pathData vtx ts f level).segs)).length = 2 := by
  rw [levelPath_cases] at h
  split_ifs at h with h1 h2 h3
  injection h with hk hL ht
  subst hk hL ht
  -- points and triangles are filtered by the same flags; the points carry one more flag, which is set
  have hlenP : (orderedPoints vtx ts f level).length
      = (flagsOf (1 / 1000000) (orderedPoints vtx ts f level) ++ [true]).length := by
    rw [List.length_append, flagsOf_length, orderedPoints, List.length_map, orderOf_length]
    rfl
  have hlenT : (orderedTrias vtx ts f level).length = (flagsOf (1 / 1000000) (orderedPoints vtx ts f level)).length := by
    rw [orderedTrias, triasOf_length, flagsOf_length, orderedPoints, List.length_map]
  refine ⟨rfl, rfl, keepSpec_sublist _ _, keepSpec_getLast _ _, rfl, ?_, not_not.1 h2⟩
  rw [← kept_eq]
  exact (congrArg (· + 1) (filter_zip_length _ _ hlenT)).trans
    ((List.count_append ..).symm.trans (filter_zip_length _ _ hlenP).symm)

/-! ## 8. the order of the points when the segment graph is a simple path -/

open LevelBfs

/-- **`path_order`**: if the segment graph is the simple path `q` (`IsPath`: `q` lists every node once and the
    neighbours of `q[j]` are `q[j±1]`), listed from the end point the code starts at, then the breadth-first distance
    of `q[j]` is `j` and the order produced by the argsort is `q` itself. -/
theorem path_order {es : List (Nat × Nat)} {q : List Nat} (h : IsPath (nNodes es) es q)
    (hstart : q.head? = some ((endsOf es).headD 0)) :
    bfsDist es = (List.range (nNodes es)).map (fun i => some (q.idxOf i)) ∧ LevelLemmas.orderOf es = q := by
  have hpos : 0 < q.length := by rw [h.length]; exact Nat.succ_pos _
  have h0 : (endsOf es).headD 0 = q[0] := by
    rw [List.head?_eq_getElem?, List.getElem?_eq_getElem hpos] at hstart
    exact (Option.some.inj hstart).symm
  have hd : bfsDist es = (List.range (nNodes es)).map (fun i => some (q.idxOf i)) := by
    rw [bfsDist, h0]; exact bfs_path h hpos
  refine ⟨hd, ?_⟩
  conv_rhs => rw [← argsort_path h]
  rw [LevelLemmas.orderOf, hd]
  congr 2
  refine List.map_congr_left fun i hi => ?_
  rw [List.getD_map_range _ _ _ (List.mem_range.1 hi), Option.getD_some]

theorem path_order_segments {segs : List (Nat × Nat × Nat)} {q : List Nat}
    (h : IsPath (nNodes (segEdges segs)) (segEdges segs) q) {j a b : Nat} (ha : q[j]? = some a) (hb : q[j + 1]? = some b) :
    ∃ s ∈ segs, segOf segs a b = some s.1 ∧ ((s.2.1 = a ∧ s.2.2 = b) ∨ (s.2.1 = b ∧ s.2.2 = a)) := by
  obtain ⟨hj0, rfl⟩ := List.getElem?_eq_some_iff.1 ha
  obtain ⟨hj, rfl⟩ := List.getElem?_eq_some_iff.1 hb
  obtain ⟨e, he, hor⟩ := mem_nbrOf.1 ((h.adj j hj0 _).2 (Or.inl ⟨hj, rfl⟩))
  obtain ⟨s0, hs0, rfl⟩ := List.mem_map.1 he
  have hsome : (segOf segs q[j] q[j + 1]).isSome := by
    rcases hor with ⟨h1, h2⟩ | ⟨h1, h2⟩
    · rw [← h1, h2]; exact (segOf_isSome hs0).1
    · rw [← h1, h2]; exact (segOf_isSome hs0).2
  obtain ⟨k, hk⟩ := Option.isSome_iff_exists.1 hsome
  obtain ⟨s, hs, rfl, hends⟩ := segOf_eq_some hk
  exact ⟨s, hs, hk, hends⟩

/-- **`level_path` follows the curve.**  If the segment graph of the crossed triangles is a simple path `q` (listed
    from the end the code starts at), the ordered points are the crossing points of the stored edges `q[0], q[1], …`;
    and for consecutive points there is a crossed triangle `c` — the one reported — such that the two points are
    the crossing points of its two crossed edges (so they lie on two edges of that triangle, at the level value by
    `crossPoint_on_level`). -/
theorem level_path_order (vtx : Nat → V3 ℝ) (ts : List Tri) (f : Nat → ℝ) (level : ℝ) {q : List Nat}
    (h : IsPath (nNodes (segEdges (pathData vtx ts f level).segs)) (segEdges (pathData vtx ts f level).segs) q)
    (hstart : q.head? = some ((endsOf (segEdges (pathData vtx ts f level).segs)).headD 0)) :
    orderedPoints vtx ts f level = q.map (fun i => (pathData vtx ts f level).pts.getD i ⟨0, 0, 0⟩) ∧
    ∀ j (hj : j + 1 < q.length), ∃ c ∈ crossed ts f level,
      (orderedTrias vtx ts f level)[j]? = some c.1 ∧
      (((pathData vtx ts f level).pts.getD q[j] ⟨0, 0, 0⟩ = crossPoint vtx f level c.2.1 c.2.2.1 ∧
        (pathData vtx ts f level).pts.getD q[j + 1] ⟨0, 0, 0⟩ = crossPoint vtx f level c.2.1 c.2.2.2) ∨
       ((pathData vtx ts f level).pts.getD q[j] ⟨0, 0, 0⟩ = crossPoint vtx f level c.2.1 c.2.2.2 ∧
        (pathData vtx ts f level).pts.getD q[j + 1] ⟨0, 0, 0⟩ = crossPoint vtx f level c.2.1 c.2.2.1)) := by
  have hord := (path_order h hstart).2
  refine ⟨by unfold orderedPoints; rw [hord], ?_⟩
  intro j hj
  have ha := List.getElem?_eq_getElem (Nat.lt_of_succ_lt hj)
  have hb := List.getElem?_eq_getElem hj
  obtain ⟨s, hs, hseg, hends⟩ := path_order_segments h ha hb
  obtain ⟨ia, ib, hsegs, hspec⟩ := pathData_segs_spec vtx ts f level
  rw [hsegs] at hs
  obtain ⟨c, hc, rfl⟩ := List.mem_map.1 hs
  obtain ⟨_, _, p1, p2⟩ := hspec c hc
  refine ⟨c, hc, ?_, ?_⟩
  · unfold orderedTrias
    rw [hord, triasOf_getElem? _ q ha hb, hseg]; rfl
  · rcases hends with ⟨e1, e2⟩ | ⟨e1, e2⟩
    · left; rw [← e1, ← e2]; exact ⟨p1, p2⟩
    · right; rw [← e1, ← e2]; exact ⟨p2, p1⟩

/-! ## non-vacuity: the unit square, `f = x`, level `1/2` -/

def sq : List Tri := [(0, 1, 2), (1, 3, 2)]
noncomputable def vtxSq : Nat → V3 ℝ := vtx4 ⟨0, 0, 0⟩ ⟨1, 0, 0⟩ ⟨0, 1, 0⟩ ⟨1, 1, 0⟩
noncomputable def fx : Nat → ℝ := fun i => (vtxSq i).x

theorem fx0 : fx 0 = 0 := rfl
theorem fx1 : fx 1 = 1 := rfl
theorem fx2 : fx 2 = 0 := rfl
theorem fx3 : fx 3 = 1 := rfl

theorem alone_sq0 : Alone (1 / 2) (fx 1) (fx 0) (fx 2) := by
  left; rw [fx0, fx1, fx2]; norm_num

theorem iso_sq0 : isolated (fx 0) (fx 1) (fx 2) (1 / 2) = some 1 :=
  (isolated_spec (by rw [fx0]; norm_num) (by rw [fx1]; norm_num) (by rw [fx2]; norm_num) 1).2
    (Or.inr (Or.inl ⟨rfl, alone_sq0⟩))

theorem crossed_sq : crossed sq fx (1 / 2) = [(0, 1, 2, 0), (1, 2, 1, 3)] := by
  have iso1 : isolated (fx 1) (fx 3) (fx 2) (1 / 2) = some 2 := by
    rw [isolated_eq_some]; norm_num [fx1, fx2, fx3]
  rw [crossed_eq]
  simp only [sq, List.zipIdx_cons, List.zipIdx_nil, List.filterMap_cons, List.filterMap_nil]
  simp only [iso_sq0, iso1, Option.map_some]
  rfl

theorem cp01 : crossPoint vtxSq fx (1 / 2) 0 1 = ⟨1 / 2, 0, 0⟩ := by
  rw [crossPoint_real, fx0, fx1]; apply V3.ext' <;> simp [vtxSq, vtx4]
theorem cp12 : crossPoint vtxSq fx (1 / 2) 1 2 = ⟨1 / 2, 1 / 2, 0⟩ := by
  rw [crossPoint_real, fx1, fx2]; apply V3.ext' <;> simp [vtxSq, vtx4] <;> norm_num
theorem cp23 : crossPoint vtxSq fx (1 / 2) 2 3 = ⟨1 / 2, 1, 0⟩ := by
  rw [crossPoint_real, fx2, fx3]; apply V3.ext' <;> simp [vtxSq, vtx4]

theorem dist_y (x y y' z : ℝ) : Level.dist (⟨x, y, z⟩ : V3 ℝ) ⟨x, y', z⟩ = |y - y'| := by
  unfold Level.dist
  v3_flat
  rw [← Real.sqrt_sq_eq_abs]
  congr 1
  ring

/-- `level_length_spec`: two crossed triangles, each contributing `1/2` -/
theorem levelLength_sq : levelLength vtxSq sq fx (1 / 2) = 1 := by
  have cp10 : crossPoint vtxSq fx (1 / 2) 1 0 = ⟨1 / 2, 0, 0⟩ := by
    rw [← crossPoint_symm _ _ _ 0 1 (by rw [fx0, fx1]; norm_num), cp01]
  have cp21 : crossPoint vtxSq fx (1 / 2) 2 1 = ⟨1 / 2, 1 / 2, 0⟩ := by
    rw [← crossPoint_symm _ _ _ 1 2 (by rw [fx1, fx2]; norm_num), cp12]
  rw [level_length_spec, crossed_sq]
  simp only [List.map_cons, List.map_nil, List.sum_cons, List.sum_nil, cp12, cp10, cp21, cp23, dist_y]
  norm_num

theorem edges_sq : (pathData vtxSq sq fx (1 / 2)).edges = [(0, 1), (1, 2), (2, 3)] := by
  rw [pathData_edges, crossed_sq]
  unfold edgesOf
  exact Topo.mergeSort_lexLe_eq (by decide) (by decide)

theorem segs_sq : (pathData vtxSq sq fx (1 / 2)).segs = [(0, 1, 0), (1, 1, 2)] := by
  rw [pathData_segs, ← pathData_edges, edges_sq, crossed_sq]
  decide

theorem pts_sq : (pathData vtxSq sq fx (1 / 2)).pts = [⟨1 / 2, 0, 0⟩, ⟨1 / 2, 1 / 2, 0⟩, ⟨1 / 2, 1, 0⟩] := by
  rw [pathData_pts, edges_sq]
  simp only [List.map_cons, List.map_nil, cp01, cp12, cp23]

/-- `path_order`: the segment graph of the square is the simple path `0 — 1 — 2` -/
theorem isPath_sq : IsPath (nNodes [(1, 0), (1, 2)]) [(1, 0), (1, 2)] [0, 1, 2] where
  nodup := by decide
  mem := by
    intro i
    rw [show nNodes [(1, 0), (1, 2)] = 3 from rfl]
    simp only [List.mem_cons, List.not_mem_nil, or_false]
    omega
  adj := by
    intro j hj x
    match j, hj with
    | 0, _ => simp [show nbrOf [(1, 0), (1, 2)] 0 = [1] from rfl]
    | 1, _ => simp [show nbrOf [(1, 0), (1, 2)] 1 = [0, 2] from rfl, or_comm]
    | 2, _ => simp [show nbrOf [(1, 0), (1, 2)] 2 = [1] from rfl]

theorem order_sq : LevelLemmas.orderOf [(1, 0), (1, 2)] = [0, 1, 2] := (path_order isPath_sq (by decide)).2

/-- `level_path` on the square: three points in order along the segment `x = 1/2`, length 1, triangles `0, 1` -/
theorem levelPath_sq : levelPath vtxSq sq fx (1 / 2)
    = .ok [⟨1 / 2, 0, 0⟩, ⟨1 / 2, 1 / 2, 0⟩, ⟨1 / 2, 1, 0⟩] 1 [0, 1] := by
  have hes : segEdges (pathData vtxSq sq fx (1 / 2)).segs = [(1, 0), (1, 2)] := by rw [segs_sq]; rfl
  have hP : orderedPoints vtxSq sq fx (1 / 2) = [⟨1 / 2, 0, 0⟩, ⟨1 / 2, 1 / 2, 0⟩, ⟨1 / 2, 1, 0⟩] := by
    rw [orderedPoints, hes, order_sq, pts_sq]; rfl
  have hT : orderedTrias vtxSq sq fx (1 / 2) = [0, 1] := by
    rw [orderedTrias, hes, order_sq, segs_sq]; decide
  have hf : flagsOf (1 / 1000000) ([⟨1 / 2, 0, 0⟩, ⟨1 / 2, 1 / 2, 0⟩, ⟨1 / 2, 1, 0⟩] : List (V3 ℝ)) = [true, true] := by
    simp only [flagsOf, List.map_cons, List.map_nil, List.drop_succ_cons, List.drop_zero, List.zip_cons_cons,
      List.zip_nil_right]
    v3_flat
    norm_num
  rw [levelPath_cases, hes, hP, hT, levelLength_sq, if_neg (by decide), if_neg (by decide), if_neg (by decide),
    ← kept_eq, hf]
  rfl

/-- `isolated_spec`, `segment_is_levelset`: their hypotheses hold in triangle 0 of the square -/
example : isolated (fx 0) (fx 1) (fx 2) (1 / 2) = some 1 ∧ Alone (1 / 2) (fx 1) (fx 0) (fx 2) :=
  ⟨iso_sq0, alone_sq0⟩

example : interp [0, 1, 3] [0, 2, 6] (0 : ℝ) = 0 ∧ interp [0, 1, 3] [0, 2, 6] (2 : ℝ) = 4 ∧
    ([0, 2, 6] : List ℝ).getLast? = some (interp [0, 1, 3] [0, 2, 6] (3 : ℝ)) := by
  have hs : ([0, 1, 3] : List ℝ).Pairwise (· < ·) := by simp
  refine ⟨interp_first 0 0 _ _, ?_,
    interp_last (xp := [0, 1, 3]) (fp := [0, 2, 6]) (xl := 3) rfl (by simp) hs rfl⟩
  rw [interp_mid (xp := [0, 1, 3]) (fp := [0, 2, 6]) rfl hs 1 (by simp) (by norm_num) (by norm_num)]
  norm_num

example : (resample [⟨1 / 2, 0, 0⟩, ⟨1 / 2, 1 / 2, 0⟩, (⟨1 / 2, 1, 0⟩ : V3 ℝ)] 5).head? = some ⟨1 / 2, 0, 0⟩ ∧
    (resample [⟨1 / 2, 0, 0⟩, ⟨1 / 2, 1 / 2, 0⟩, (⟨1 / 2, 1, 0⟩ : V3 ℝ)] 5).getLast? = some ⟨1 / 2, 1, 0⟩ ∧
    (resample [⟨1 / 2, 0, 0⟩, ⟨1 / 2, 1 / 2, 0⟩, (⟨1 / 2, 1, 0⟩ : V3 ℝ)] 5).length = 5 :=
  resample_endpoints rfl rfl (by intro h; have := congrArg V3.y h; norm_num at this) (by norm_num)

example : (endsOf (segEdges (pathData vtxSq sq fx (1 / 2)).segs)).length = 2 := (merge_eps levelPath_sq).2.2.2.2.2.2

/-- `levelPath_valueError_iff`: a single uncrossed triangle has no segment, `level_path` raises -/
example : levelPath vtxSq [(0, 2, 0)] fx (1 / 2) = .valueError := by
  rw [levelPath_valueError_iff]
  left
  have : crossed [(0, 2, 0)] fx (1 / 2) = [] := by
    rw [crossed_eq]
    have h : isolated (fx 0) (fx 2) (fx 0) (1 / 2) = none := by
      rw [isolated_eq_none]; right; rw [fx0, fx2]; norm_num
    simp only [List.zipIdx_cons, List.zipIdx_nil, List.filterMap_cons, List.filterMap_nil, h, Option.map_none]
  rw [pathData_segs, this]
  rfl

example : LevelLemmas.orderOf [(1, 0), (1, 2)] = [0, 1, 2] := order_sq

end LapyVerif.Props.C16
